/-
  Atto/Lemmas/TextStageLemmas.lean — helper lemmas for `Atto/Props/C18s.lean` (the staging buffer of
  `TextReader`, model `Atto/Model/TextStage.lean`): `evBytes`, `nonOk`, `askSize`, the `++` equations of
  the runs, the five outcomes of one `read` (`read_elim`) and what follows from them for one step.
-/
import Atto.Model.TextStage
import Atto.Lemmas.ListFacts
namespace Atto

variable {σ : Type}

/-- the bytes of one event (`[]` for a non-`Ok` one) -/
def evBytes : RR Bytes → Bytes
  | .ok bs => bs
  | _ => []

/-- the non-`Ok` events (errors / blocked / panic) of a run, in order -/
def nonOk (l : List (RR Bytes)) : List (RR Bytes) := l.filter (fun e => !e.isOk)

/-- the size the decoder is asked for by a caller read of `n` bytes when nothing is staged -/
def askSize (n : Nat) : Nat := if stageMin ≤ n ∨ n = 0 then n else stageCap

theorem okBytes_cons (e : RR Bytes) (r : List (RR Bytes)) :
    okBytes (e :: r) = evBytes e ++ okBytes r := by
  cases e <;> simp [okBytes, evBytes]

theorem okBytes_append (a b : List (RR Bytes)) : okBytes (a ++ b) = okBytes a ++ okBytes b := by
  induction a with
  | nil => rfl
  | cons e a ih => rw [List.cons_append, okBytes_cons, okBytes_cons, ih, List.append_assoc]

theorem nonOk_append (a b : List (RR Bytes)) : nonOk (a ++ b) = nonOk a ++ nonOk b :=
  List.filter_append ..

theorem nonOk_cons (e : RR Bytes) (r : List (RR Bytes)) : nonOk (e :: r) = nonOk [e] ++ nonOk r :=
  nonOk_append [e] r

@[simp] theorem nonOk_nil : nonOk [] = [] := rfl

theorem nonOk_single_of_not_ok (e : RR Bytes) (h : e.isOk = false) : nonOk [e] = [e] := by
  simp [nonOk, h]

theorem askSize_of_pass {n : Nat} (h : stageMin ≤ n ∨ n = 0) : askSize n = n := if_pos h

theorem askSize_of_small {n : Nat} (h : ¬ (stageMin ≤ n ∨ n = 0)) : askSize n = stageCap := if_neg h

theorem askSize_eq (n : Nat) : (askSize n = n ∧ (n = 0 ∨ stageMin ≤ n)) ∨ askSize n = stageCap := by
  by_cases h : stageMin ≤ n ∨ n = 0
  · exact .inl ⟨askSize_of_pass h, h.symm⟩
  · exact .inr (askSize_of_small h)

theorem askSize_spec (n : Nat) : askSize n = 0 ∨ stageMin ≤ askSize n := by
  rcases askSize_eq n with ⟨e, h⟩ | e <;> rw [e]
  · exact h
  · exact Or.inr (by decide)

theorem okBytes_single (e : RR Bytes) : okBytes [e] = evBytes e := by
  rw [okBytes_cons]; exact List.append_nil _

theorem runInner_single (R : InnerRead σ) (i : σ) (k : Nat) :
    runInner R i [k] = ([(R i k).1], (R i k).2) := rfl

theorem runInner_cons (R : InnerRead σ) (i : σ) (n : Nat) (ns : List Nat) :
    runInner R i (n :: ns)
      = ((R i n).1 :: (runInner R (R i n).2 ns).1, (runInner R (R i n).2 ns).2) := rfl

theorem runInner_append (R : InnerRead σ) (i : σ) (ks ls : List Nat) :
    runInner R i (ks ++ ls) = ((runInner R i ks).1 ++ (runInner R (runInner R i ks).2 ls).1,
      (runInner R (runInner R i ks).2 ls).2) := by
  induction ks generalizing i with
  | nil => rfl
  | cons k ks ih => simp only [List.cons_append, runInner_cons, ih]

namespace TextStage

theorem run_cons (R : InnerRead σ) (s : TextStage σ) (n : Nat) (ns : List Nat) :
    run R s (n :: ns)
      = ((s.read R n).1 :: (run R (s.read R n).2 ns).1, (run R (s.read R n).2 ns).2) := rfl

theorem innerSizes_cons (R : InnerRead σ) (s : TextStage σ) (n : Nat) (ns : List Nat) :
    innerSizes R s (n :: ns)
      = if s.pos = s.staged.length then askSize n :: innerSizes R (s.read R n).2 ns
        else innerSizes R (s.read R n).2 ns := rfl

theorem innerSizes_single (R : InnerRead σ) (s : TextStage σ) (n : Nat) :
    innerSizes R s [n] = if s.pos = s.staged.length then [askSize n] else [] := rfl

theorem innerSizes_cons_append (R : InnerRead σ) (s : TextStage σ) (n : Nat) (ns : List Nat) :
    innerSizes R s (n :: ns) = innerSizes R s [n] ++ innerSizes R (s.read R n).2 ns := by
  rw [innerSizes_cons, innerSizes_cons]
  split <;> rfl

/-- the decoder is asked, in order, for `askSize n` of SOME of the caller's sizes `n` -/
theorem innerSizes_sublist (R : InnerRead σ) (s : TextStage σ) (ns : List Nat) :
    (innerSizes R s ns).Sublist (ns.map askSize) := by
  induction ns generalizing s with
  | nil => exact .slnil
  | cons n ns ih =>
    rw [innerSizes_cons, List.map_cons]
    split
    · exact (ih _).cons_cons _
    · exact (ih _).cons _

/-! ### what is staged -/

theorem pending_of_pos_eq {s : TextStage σ} (h : s.pos = s.staged.length) : s.pending = [] :=
  List.drop_eq_nil_of_le (Nat.le_of_eq h.symm)

theorem pending_length (s : TextStage σ) : s.pending.length = s.staged.length - s.pos :=
  List.length_drop

theorem pending_advance (s : TextStage σ) (k : Nat) :
    ({ s with pos := s.pos + k } : TextStage σ).pending = s.pending.drop k :=
  (List.drop_drop ..).symm

/-! ### one `read` -/

/-- The five ways one `read` can go.  When nothing is staged ONE decoder call is made, of size
    `askSize n`; its answer is staged and the head handed out, or (impossible under the `Read`
    contract at `stageCap`) too long for the stage, or forwarded as it is.  Otherwise the read is served from the
    stage, or (impossible under `Inv`) `pos` is beyond the staged bytes. -/
theorem read_elim (R : InnerRead σ) (s : TextStage σ) (n : Nat)
    {motive : RR Bytes × TextStage σ → Prop}
    (served : s.pos < s.staged.length →
      motive (.ok (s.pending.take n), { s with pos := s.pos + (s.pending.take n).length }))
    (underflow : s.staged.length < s.pos → motive (.panic, s))
    (staged : ∀ bs, s.pos = s.staged.length → (R s.inner (askSize n)).1 = .ok bs →
      askSize n = stageCap → bs.length ≤ stageCap →
      motive (.ok (bs.take n),
        { inner := (R s.inner (askSize n)).2, staged := bs, pos := (bs.take n).length }))
    (tooLong : ∀ bs, s.pos = s.staged.length → (R s.inner (askSize n)).1 = .ok bs →
      askSize n = stageCap → askSize n < bs.length → motive (.panic, { s with inner := (R s.inner (askSize n)).2 }))
    (forwarded : s.pos = s.staged.length →
      askSize n = n ∨ (R s.inner (askSize n)).1.isOk = false →
      motive ((R s.inner (askSize n)).1, { s with inner := (R s.inner (askSize n)).2 })) :
    motive (s.read R n) := by
  unfold TextStage.read
  by_cases h1 : s.pos = s.staged.length
  · rw [if_pos h1]
    by_cases h2 : stageMin ≤ n ∨ n = 0
    · have e := askSize_of_pass h2
      rw [e] at forwarded
      rw [if_pos h2]
      exact forwarded h1 (.inl rfl)
    · have e := askSize_of_small h2
      rw [e] at staged tooLong forwarded
      rw [if_neg h2]
      generalize R s.inner stageCap = p at staged tooLong forwarded ⊢
      obtain ⟨r, i'⟩ := p
      cases r with
      | ok bs =>
        by_cases hl : stageCap < bs.length
        · simp only [if_pos hl]; exact tooLong bs h1 rfl rfl hl
        · simp only [if_neg hl]; exact staged bs h1 rfl rfl (Nat.not_lt.mp hl)
      | _ => exact forwarded h1 (.inr rfl)
  · rw [if_neg h1]
    by_cases h3 : s.staged.length < s.pos
    · rw [if_pos h3]; exact underflow h3
    · rw [if_neg h3]; exact served (by omega)

theorem inv_fresh (i : σ) : ({ inner := i } : TextStage σ).Inv := by
  constructor <;> simp [stageCap]

/-- no assumption on the decoder -/
theorem read_inv (R : InnerRead σ) (s : TextStage σ) (n : Nat) (hI : s.Inv) : (s.read R n).2.Inv := by
  refine read_elim R s n (motive := fun r => r.2.Inv) ?served ?underflow ?staged ?tooLong ?forwarded
  case served =>
    intro h
    refine ⟨?_, hI.2⟩
    simp only [List.length_take, pending_length]
    omega
  case underflow => exact fun _ => hI
  case staged =>
    intro bs _ _ _ hl
    refine ⟨?_, hl⟩
    simp only [List.length_take]
    exact Nat.min_le_right _ _
  case tooLong => exact fun _ _ _ _ _ => hI
  case forwarded => exact fun _ _ => hI

theorem run_inv (R : InnerRead σ) (s : TextStage σ) (ns : List Nat) (hI : s.Inv) :
    (run R s ns).2.Inv := by
  induction ns generalizing s with
  | nil => exact hI
  | cons n ns ih => rw [run_cons]; exact ih _ (read_inv R s n hI)

theorem read_panic (R : InnerRead σ)
    (hR : ∀ i n, ∀ bs, (R i n).1 = .ok bs → bs.length ≤ n)
    (s : TextStage σ) (n : Nat) (hI : s.Inv) (hp : (s.read R n).1 = .panic) :
    (R s.inner n).1 = .panic ∨ (R s.inner stageCap).1 = .panic := by
  refine read_elim R s n (motive := fun r => r.1 = .panic → _)
    ?served ?underflow ?staged ?tooLong ?forwarded hp
  case served => exact fun _ hp => nomatch hp
  case underflow => exact fun h => absurd hI.1 (Nat.not_le.mpr h)
  case staged => exact fun _ _ _ _ _ hp => nomatch hp
  case tooLong => exact fun _ _ hr _ hl => absurd (hR _ _ _ hr) (Nat.not_le.mpr hl)
  case forwarded =>
    intro _ _ hp
    rcases askSize_eq n with ⟨e, _⟩ | e <;> rw [e] at hp
    · exact .inl hp
    · exact .inr hp

/-- One read is transparent: `C18_stage_transparent` for the schedule `[n]`, and the invariant. -/
theorem step (R : InnerRead σ)
    (hR : ∀ i n, ∀ bs, (R i n).1 = .ok bs → bs.length ≤ n)
    (s : TextStage σ) (hI : s.Inv) (n : Nat) :
    s.pending ++ okBytes (runInner R s.inner (innerSizes R s [n])).1
        = evBytes (s.read R n).1 ++ (s.read R n).2.pending
    ∧ (s.read R n).2.inner = (runInner R s.inner (innerSizes R s [n])).2
    ∧ nonOk [(s.read R n).1] = nonOk (runInner R s.inner (innerSizes R s [n])).1
    ∧ (s.read R n).2.Inv := by
  rw [innerSizes_single]
  refine read_elim R s n
    (motive := fun r => r.2.Inv → _ = evBytes r.1 ++ r.2.pending ∧ r.2.inner = _ ∧ nonOk [r.1] = _ ∧ r.2.Inv)
    ?served ?underflow ?staged ?tooLong ?forwarded (read_inv R s n hI)
  case served =>
    intro h hInv
    rw [if_neg (Nat.ne_of_lt h), pending_advance]
    exact ⟨(List.append_nil _).trans (take_append_drop_min _ n).symm, rfl, rfl, hInv⟩
  case underflow => exact fun h => absurd hI.1 (Nat.not_le.mpr h)
  case staged =>
    intro bs h1 hr _ _ hInv
    rw [if_pos h1, runInner_single, okBytes_single, hr, pending_of_pos_eq h1]
    exact ⟨(take_append_drop_min bs n).symm, rfl, rfl, hInv⟩
  case tooLong => exact fun _ _ hr _ hl => absurd (hR _ _ _ hr) (Nat.not_le.mpr hl)
  case forwarded =>
    intro h1 _ hInv
    rw [if_pos h1, runInner_single, okBytes_single]
    refine ⟨?_, rfl, rfl, hInv⟩
    show s.pending ++ _ = _ ++ s.pending
    rw [pending_of_pos_eq h1]
    exact (List.append_nil _).symm

end TextStage
end Atto
