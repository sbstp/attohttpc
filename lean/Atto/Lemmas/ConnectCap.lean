/-
  Atto/Lemmas/ConnectCap.lean — the body of a non-2xx CONNECT answer is read through
  `take(CONNECT_BODY_CAP).read_to_end` (`readToEndTake`). Whatever the reader: at most `limit` bytes
  are collected (`readToEndTake_le`). For a reader that is `Ok`, one iteration goes by the head of the
  flat item stream (`readToEndTake_succ`); hence the fuel `initiateTunnel` gives is enough
  (`readToEndTake_no_panic`), and a successful call collects exactly the first `limit` of the
  "leading bytes" of the stream — bytes up to the first item that is neither a byte nor an
  Interrupted error (`rq_readToEndTake_exact`).
-/
import Atto.Model.Send
import Atto.Lemmas.BufReaderRefine
namespace Atto

/-! ### the cap -/

/-- `take(limit).read_to_end` appends at most `limit` bytes. -/
theorem readToEndTake_le (fuel : Nat) (r : BufR) (limit : Nat) (acc body : Bytes) :
    readToEndTake fuel r limit acc = .ok body → body.length ≤ acc.length + limit := by
  induction fuel generalizing r limit acc with
  | zero => intro h; cases h
  | succ fuel ih =>
    intro h
    -- the arms of `readToEndTake`, in its order
    rw [readToEndTake] at h
    split at h
    · cases h; omega
    split at h
    · cases h; omega
    · -- at most `min limit 32` bytes are delivered, and the limit goes down by as many
      next bs r' _ hrd =>
      have := read_le r (min limit 32) bs (by rw [hrd])
      have := ih _ _ _ h
      rw [List.length_append] at this
      omega
    · -- an Interrupted error is retried
      exact ih _ _ _ h
    · cases h
    · cases h
    · cases h

/-! ### enough fuel -/

/-- One iteration of `take(limit).read_to_end` with `limit > 0`, by the head of the flat stream:
    its end, bytes, an Interrupted error, another error, a pause. -/
theorem readToEndTake_succ (fuel : Nat) (r : BufR) (limit : Nat) (acc : Bytes) (h : r.Ok)
    (hl : limit ≠ 0) :
    (r.flat = [] ∧ readToEndTake (fuel + 1) r limit acc = .ok acc) ∨
    (∃ bs r', bs ≠ [] ∧ bs.length ≤ limit ∧ r'.Ok ∧ r'.inner.length ≤ r.inner.length ∧
        bs.map Item.byte ++ r'.flat = r.flat ∧
        readToEndTake (fuel + 1) r limit acc = readToEndTake fuel r' (limit - bs.length) (acc ++ bs)) ∨
    (∃ r', r'.Ok ∧ r'.inner.length < r.inner.length ∧ r.flat = .err 0 :: r'.flat ∧
        readToEndTake (fuel + 1) r limit acc = readToEndTake fuel r' limit acc) ∨
    (∃ k, readToEndTake (fuel + 1) r limit acc = .err (.io (k + 1))) ∨
    readToEndTake (fuel + 1) r limit acc = .blocked := by
  have hs := read_spec_strong r (min limit 32) h (by omega)
  rw [readToEndTake, if_neg hl]
  rcases hrd : r.read (min limit 32) with ⟨res, r'⟩
  rw [hrd] at hs
  obtain ⟨hok, _, hlen, hm⟩ := hs
  match hfl : r.flat with
  | [] =>
    simp only [hfl] at hm
    exact .inl ⟨rfl, by rw [hm.1]⟩
  | .byte b :: rest =>
    simp only [hfl] at hm
    obtain ⟨bs, rfl, hne, hle, hfeq⟩ := hm
    refine .inr (.inl ⟨bs, r', hne, by omega, hok, hlen, hfeq, ?_⟩)
    cases bs with
    | nil => exact absurd rfl hne
    | cons c bs => rfl
  | .err 0 :: rest =>
    simp only [hfl] at hm
    obtain ⟨rfl, hfeq, hlt⟩ := hm
    exact .inr (.inr (.inl ⟨r', hok, hlt, by rw [hfeq], rfl⟩))
  | .err (k + 1) :: rest =>
    simp only [hfl] at hm
    exact .inr (.inr (.inr (.inl ⟨k, by rw [hm.1]; rfl⟩)))
  | .pause :: rest =>
    simp only [hfl] at hm
    exact .inr (.inr (.inr (.inr (by rw [hm.1]))))

/-- with `limit + inner.length + 1` units of fuel the loop never runs dry: every iteration
    either delivers a byte (the limit decreases) or eats one Interrupted error (the transport
    script gets shorter). -/
theorem readToEndTake_no_panic (fuel : Nat) (r : BufR) (limit : Nat) (acc : Bytes) :
    r.Ok → limit + r.inner.length + 1 ≤ fuel → readToEndTake fuel r limit acc ≠ .panic := by
  induction fuel generalizing r limit acc with
  | zero => intro _ hf; omega
  | succ fuel ih =>
    intro h hf
    by_cases hl : limit = 0
    · simp [readToEndTake, hl]
    rcases readToEndTake_succ fuel r limit acc h hl with
      ⟨_, e⟩ | ⟨bs, r', hne, hle, hok, hlen, _, e⟩ | ⟨r', hok, hlen, _, e⟩ | ⟨k, e⟩ | e
    · rw [e]; nofun
    · have := List.length_pos_iff.mpr hne
      rw [e]; exact ih r' _ _ hok (by omega)
    · rw [e]; exact ih r' _ _ hok (by omega)
    · rw [e]; nofun
    · rw [e]; nofun

/-! ### what is collected -/

/-- the bytes an observer gets from a flat stream before anything other than a byte or an
    Interrupted (`err 0`) error: `err 0` items are skipped, any other error / pause / end of
    stream stops. -/
def rqLeadingBytes : List Item → Bytes
  | [] => []
  | .byte b :: is => b :: rqLeadingBytes is
  | .err k :: is => if k = 0 then rqLeadingBytes is else []
  | .pause :: _ => []

@[simp] theorem rq_leadingBytes_nil : rqLeadingBytes [] = [] := rfl
@[simp] theorem rq_leadingBytes_byte (b : UInt8) (is : List Item) :
    rqLeadingBytes (.byte b :: is) = b :: rqLeadingBytes is := rfl
@[simp] theorem rq_leadingBytes_err_zero (is : List Item) :
    rqLeadingBytes (.err 0 :: is) = rqLeadingBytes is := by simp [rqLeadingBytes]
@[simp] theorem rq_leadingBytes_err_succ (k : Nat) (is : List Item) :
    rqLeadingBytes (.err (k+1) :: is) = [] := by simp [rqLeadingBytes]
@[simp] theorem rq_leadingBytes_pause (is : List Item) :
    rqLeadingBytes (.pause :: is) = [] := rfl

theorem rq_leadingBytes_bytes_append (bs : Bytes) (is : List Item) :
    rqLeadingBytes (bs.map .byte ++ is) = bs ++ rqLeadingBytes is := by
  induction bs with
  | nil => simp
  | cons b bs ih => simp [ih]

/-- exact characterisation of a successful `take(limit).read_to_end` -/
theorem rq_readToEndTake_exact (fuel : Nat) (r : BufR) (limit : Nat) (acc body : Bytes) :
    r.Ok → readToEndTake fuel r limit acc = .ok body →
    body = acc ++ (rqLeadingBytes r.flat).take limit := by
  induction fuel generalizing r limit acc with
  | zero => intro _ h; cases h
  | succ fuel ih =>
    intro h hb
    by_cases hl : limit = 0
    · simp only [readToEndTake, hl, if_true, RR.ok.injEq] at hb; simp [hl, hb]
    rcases readToEndTake_succ fuel r limit acc h hl with
      ⟨hfl, e⟩ | ⟨bs, r', _, hle, hok, _, hfeq, e⟩ | ⟨r', hok, _, hfl, e⟩ | ⟨k, e⟩ | e
    · rw [e] at hb; cases hb; simp [hfl]
    · rw [e] at hb
      rw [← hfeq, rq_leadingBytes_bytes_append, List.take_append, List.take_of_length_le hle,
        ih r' _ _ hok hb, List.append_assoc]
    · rw [e] at hb
      rw [ih r' _ _ hok hb, hfl, rq_leadingBytes_err_zero]
    · rw [e] at hb; cases hb
    · rw [e] at hb; cases hb

/-- weaker, prefix form of `rq_readToEndTake_exact` -/
theorem rq_readToEndTake_prefix_gen (fuel : Nat) (r : BufR) (limit : Nat) (acc body : Bytes) :
    r.Ok → readToEndTake fuel r limit acc = .ok body →
    ∃ got, body = acc ++ got ∧ got <+: rqLeadingBytes r.flat ∧ got.length ≤ limit := by
  intro h hb
  refine ⟨(rqLeadingBytes r.flat).take limit, rq_readToEndTake_exact fuel r limit acc body h hb,
    List.take_prefix _ _, ?_⟩
  simp only [List.length_take]; omega

/-! ### non-vacuity: a concrete segmented transport with an Interrupted error in the middle -/

/-- a reader with two buffered bytes and a segmented transport containing an `.err 0` -/
def rqExampleR : BufR := { buf := [1, 2], cap := 3, inner := [.data [3], .err 0, .data [4, 5]] }

example : rqExampleR.Ok := by
  refine ⟨?_, by decide⟩
  simp [rqExampleR, wfT]

example : rqLeadingBytes rqExampleR.flat = [1, 2, 3, 4, 5] := by decide

example : readToEndTake 10 rqExampleR 4 [] = .ok [1, 2, 3, 4] := by rfl

example : readToEndTake 10 rqExampleR 4 [] = .ok ((rqLeadingBytes rqExampleR.flat).take 4) := by
  rfl

/-- the limit is not reached: the stream ends first -/
example : readToEndTake 10 rqExampleR 9 [7] = .ok [7, 1, 2, 3, 4, 5] := by rfl

/-- a non-Interrupted error is not skipped: the read fails, and the leading bytes stop there -/
example :
    readToEndTake 10 { buf := [1], cap := 3, inner := [.err 5, .data [4]] } 4 [] = .err (.io 5) ∧
    rqLeadingBytes ({ buf := [1], cap := 3, inner := [.err 5, .data [4]] } : BufR).flat = [1] := by
  exact ⟨rfl, rfl⟩

end Atto
