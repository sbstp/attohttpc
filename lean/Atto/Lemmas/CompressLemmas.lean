/-
  Atto/Lemmas/CompressLemmas.lean — helper lemmas for property C06: which decoder
  `CompressedReader::new` selects, characterised on the header fields; and what a consumer that pulls
  from the body until the first non-`Ok` result is handed (`cz_pullEv…`).
-/
import Atto.Lemmas.BodyReads
namespace Atto
open Atto.Framing

theorem cz_str_gzip : str "gzip" = [103, 122, 105, 112] := by decide +kernel
theorem cz_str_deflate : str "deflate" = [100, 101, 102, 108, 97, 116, 101] := by decide +kernel
theorem cz_lower_gzip : lowerBytes (str "gzip") = str "gzip" := by decide +kernel
theorem cz_lower_deflate : lowerBytes (str "deflate") = str "deflate" := by decide +kernel

theorem cz_haveEncoding_iff (hs : Headers) (tok : Bytes) (hl : lowerBytes tok = tok) :
    haveEncoding hs tok = true ↔
      (declaresIn hs nameCE tok ∨ declaresIn hs nameTE tok) := by
  unfold haveEncoding
  rw [Bool.or_eq_true, haveEncodingIn_iff _ _ _ hl, haveEncodingIn_iff _ _ _ hl]

theorem cz_parseResponse_coding {m : Method} {mh cap : Nat} {t : Transport} {resp : Resp}
    (h : parseResponse m mh cap t = .ok resp) :
    resp.coding = codingFor (bodyless m resp.status) m resp.rawHeaders := by
  unfold parseResponse at h
  simp only at h
  split at h
  · -- the head parsed: `.ok` only if a framing was chosen, and then the coding is this one
    split at h
    · cases h
    · cases h; rfl
  all_goals cases h   -- the head did not parse

/-- on a well-formed head the selection is made on the header fields the server sent -/
theorem cz_head_coding (h : HeadS) (hh : h.WF Consts.maxLineLen) (rest : List Item) (t : Transport)
    (cap mh : Nat) (m : Method) (hwf : wfT t) (hcap : 0 < cap)
    (hmh : h.fields.length ≤ mh) (hms : h.fields.length ≤ Headers.maxSize)
    (hflat : flatT t = bytesI h.render ++ rest) {resp : Resp}
    (hp : parseResponse m mh cap t = .ok resp) :
    resp.rawHeaders = h.seen ∧ resp.coding = codingFor (bodyless m h.code) m h.seen := by
  obtain ⟨r1, h1, _, _⟩ :=
    head_of_flat t cap mh hwf hcap (hflat ▸ head_roundtrip h hh rest mh hmh hms)
  simp only [parseResponse, h1] at hp
  split at hp
  · cases hp
  · cases hp; exact ⟨rfl, rfl⟩

/-! ### a decoder as a consumer of `Body.read` -/

/-- what a consumer that stops at the first non-`Ok` result has been handed -/
def cz_pullEv : List Ev → Bytes
  | .ok bs :: es => bs ++ cz_pullEv es
  | _ => []

theorem cz_pullEv_prefix : ∀ evs : List Ev, cz_pullEv evs <+: deliveredEv evs := by
  intro evs
  induction evs with
  | nil => simp [cz_pullEv]
  | cons e es ih =>
    cases e with
    | ok bs => simp only [cz_pullEv, deliveredEv]; exact (List.prefix_append_right_inj bs).mpr ih
    | err e => simp [cz_pullEv]
    | blocked => simp [cz_pullEv]
    | panic => simp [cz_pullEv]

theorem cz_pullEv_allOk : ∀ evs : List Ev, (∀ e ∈ evs, e.isOk) → cz_pullEv evs = deliveredEv evs := by
  intro evs
  induction evs with
  | nil => intro _; rfl
  | cons e es ih =>
    intro h
    have he := h e (by simp)
    cases e with
    | ok bs => simp only [cz_pullEv, deliveredEv]; rw [ih (fun e he => h e (by simp [he]))]
    | err e => simp [Ev.isOk] at he
    | blocked => simp [Ev.isOk] at he
    | panic => simp [Ev.isOk] at he

/-- the shape of the C01 conclusions, read by a consumer that stops at the first non-`Ok` -/
theorem cz_pull_complete (evs : List Ev) (ns : List Nat) (payload : Bytes)
    (hok : ∀ e ∈ evs, e.isOk) (hpre : deliveredEv evs <+: payload)
    (hend : ∀ i (hi : i < ns.length), 0 < ns[i] → evs[i]? = some (.ok []) →
      deliveredEv (evs.take i) = payload) :
    cz_pullEv evs <+: payload ∧
    ((∃ i, ∃ hi : i < ns.length, 0 < ns[i] ∧ evs[i]? = some (.ok [])) → cz_pullEv evs = payload) := by
  rw [cz_pullEv_allOk evs hok]
  refine ⟨hpre, ?_⟩
  rintro ⟨i, hi, hpos, hev⟩
  have h1 := hend i hi hpos hev
  have h2 := deliveredEv_take_prefix evs i
  rw [h1] at h2
  exact List.IsPrefix.eq_of_length_le hpre h2.length_le

end Atto
