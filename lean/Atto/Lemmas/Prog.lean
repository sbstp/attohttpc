/-
  Atto/Lemmas/Prog.lean — the readers over a `Src` (`read_line`, `read_line_ending`, `skip_trailers`,
  the operations of the chunked decoder) as programs over its two primitives.

  A reader talks to its source through `read_exact` and `read_until` only, so it is the run of an
  interaction tree (`Prog`). What holds of every such program is proved once, by induction on the
  tree, instead of once per reader: two sources that simulate each other give the same run
  (Lemmas/Sim.lean); a contract `Spec p Q` of the program alone — what its value is, given what its
  calls returned — holds of its run on the flat stream (`Prog.run_flat_spec`), where a run without a
  failed call consumed a clean piece of the stream; a cut stream fails where the complete one goes on
  (`Prog.run_cut`).

  For that `read_line`, `read_line_ending` (Model/Lines.lean), `skip_trailers`, the end of a chunk and
  the five operations of the decoder (Model/Body.lean) have a twin here, written as a `Prog`: the
  model text with the arms that hand a failure up folded into `RR.andThen`. Not programs:
  `parse_response_head` with its header loop (Model/Head.lean), whose fuel `headFuel` reads `S.size`
  in the middle of the run, for which `Prog` has no node; and `read_line_strict`, which only that
  loop calls and which could be one, but is carried to other sources by its own induction on the
  fuel in Lemmas/Sim.lean (as a program it came out no shorter). Per reader, in this
  order: the twin; `…_eq_run`, the model function is the run of the twin; `…P_spec`, the contract of
  the twin (no panic, a failed call handed up; for the refills also what the consumed bytes are and
  what they leave in the buffer; `fill_buf` and `read` promise less, see `Fills`); for the operations
  of the decoder `…_flat_spec`, the contract as it holds of the model function on the flat stream.
  Other files use `…_eq_run` (Lemmas/Sim.lean) and the facts about the model functions, not the
  twins.
-/
import Atto.Model.Body
import Atto.Lemmas.FlatPrims
namespace Atto

/-- a reader that talks to its source through `read_exact` and `read_until` only -/
inductive Prog (β : Type) where
  | ret (v : β)
  | exact (n : Nat) (k : RR Bytes → Prog β)
  | until_ (l : Nat) (k : RR (Bytes × Nat) → Prog β)

namespace Prog

def run (S : Src σ) : Prog β → σ → β × σ
  | ret v, s => (v, s)
  | exact n k, s => (k (S.readExact s n).1).run S (S.readExact s n).2
  | until_ l k, s => (k (S.readUntil s l).1).run S (S.readUntil s l).2

def bind : Prog β → (β → Prog γ) → Prog γ
  | ret v, f => f v
  | exact n k, f => exact n (fun r => (k r).bind f)
  | until_ l k, f => until_ l (fun r => (k r).bind f)

theorem run_ret (S : Src σ) (v : β) (s : σ) : (ret v).run S s = (v, s) := rfl

theorem run_exact (S : Src σ) (n : Nat) (k : RR Bytes → Prog β) (s : σ) :
    (exact n k).run S s = (k (S.readExact s n).1).run S (S.readExact s n).2 := rfl

theorem run_until (S : Src σ) (l : Nat) (k : RR (Bytes × Nat) → Prog β) (s : σ) :
    (until_ l k).run S s = (k (S.readUntil s l).1).run S (S.readUntil s l).2 := rfl

theorem run_bind (S : Src σ) (p : Prog β) (f : β → Prog γ) (s : σ) :
    (p.bind f).run S s = (f (p.run S s).1).run S (p.run S s).2 := by
  induction p generalizing s with
  | ret v => rfl
  | exact n k ih => exact ih _ _
  | until_ l k ih => exact ih _ _

end Prog

/-- what is not a value: the arms `| .err e => … | .blocked => … | .panic => …` of every reader -/
inductive Fail where
  | err (e : E)
  | blocked
  | panic

def Fail.toRR : Fail → RR α
  | .err e => .err e
  | .blocked => .blocked
  | .panic => .panic

/-- go on with the value of `x`, or end with its failure as `up` presents it -/
def RR.andThen (x : RR α) (up : Fail → β) (f : α → Prog β) : Prog β :=
  match x with
  | .ok v => f v
  | .err e => .ret (up (.err e))
  | .blocked => .ret (up .blocked)
  | .panic => .ret (up .panic)

/-! ## The contract of a program

`Spec p Q`: whatever a source that keeps the contract of the flat primitives (no panic,
`read_exact(n)` returns `n` bytes, `Take(l).read_until` at most `l`) hands to `p`, `Q bs failed v`
holds of the value `v` it ends in, of the bytes `bs` its successful calls returned (in order,
concatenated) and of whether a call failed (an error, a stall; for `read_until` also a line that
ends without LF, which is what EOF looks like there). A property of the program alone. -/

/-- the bytes of a successful `read_exact` -/
def RR.got : RR Bytes → Bytes
  | .ok bs => bs
  | _ => []

/-- the bytes of a successful `read_until` -/
def RR.line : RR (Bytes × Nat) → Bytes
  | .ok (bs, _) => bs
  | _ => []

/-- `read_until` did not come back with a line: it failed, or stopped (EOF, limit) before an LF -/
def RR.noLine : RR (Bytes × Nat) → Bool
  | .ok (bs, _) => !bs.contains 10
  | _ => true

/-- a `read_exact` that did not fail consumed a clean piece of the stream: its bytes -/
theorem specExact_adv {n : Nat} {is : List Item} (h : (!(specExact n is).1.isOk) = false) :
    Adv is (specExact n is).2 (specExact n is).1.got := by
  cases hr : (specExact n is).1 with
  | ok bs => exact (specExact_ok hr).2
  | _ => rw [hr] at h; cases h

/-- … and so did a `read_until` that came back with a line -/
theorem specUntil_adv {l : Nat} {is : List Item} (h : (specUntil l is []).1.noLine = false) :
    Adv is (specUntil l is []).2 (specUntil l is []).1.line := by
  cases hr : (specUntil l is []).1 with
  | ok x => exact (specUntil_ok (bs := x.1) (l' := x.2) hr).2
  | _ => rw [hr] at h; cases h

namespace Prog

def Spec : Prog β → (Bytes → Bool → β → Prop) → Prop
  | ret v, Q => Q [] false v
  | exact n k, Q => ∀ r, r ≠ .panic → (∀ bs, r = .ok bs → bs.length = n) →
      Spec (k r) fun more f v => Q (r.got ++ more) (!r.isOk || f) v
  | until_ l k, Q => ∀ r, r ≠ .panic → (∀ bs l', r = .ok (bs, l') → bs.length + l' = l) →
      Spec (k r) fun more f v => Q (r.line ++ more) (r.noLine || f) v

theorem Spec.ret {v : β} {Q : Bytes → Bool → β → Prop} : (ret v).Spec Q ↔ Q [] false v := Iff.rfl

theorem Spec.exact_iff {n : Nat} {k : RR Bytes → Prog β} {Q : Bytes → Bool → β → Prop} :
    (exact n k).Spec Q ↔ ∀ r, r ≠ .panic → (∀ bs, r = .ok bs → bs.length = n) →
      (k r).Spec fun more f v => Q (r.got ++ more) (!r.isOk || f) v := Iff.rfl

theorem Spec.until_iff {l : Nat} {k : RR (Bytes × Nat) → Prog β} {Q : Bytes → Bool → β → Prop} :
    (until_ l k).Spec Q ↔ ∀ r, r ≠ .panic → (∀ bs l', r = .ok (bs, l') → bs.length + l' = l) →
      (k r).Spec fun more f v => Q (r.line ++ more) (r.noLine || f) v := Iff.rfl

theorem Spec.mono {p : Prog β} {Q Q' : Bytes → Bool → β → Prop} (h : ∀ bs f v, Q bs f v → Q' bs f v)
    (hp : p.Spec Q) : p.Spec Q' := by
  induction p generalizing Q Q' with
  | ret v => exact h _ _ _ hp
  | exact n k ih => exact fun r h1 h2 => ih r (fun _ _ _ => h _ _ _) (hp r h1 h2)
  | until_ l k ih => exact fun r h1 h2 => ih r (fun _ _ _ => h _ _ _) (hp r h1 h2)

theorem Spec.bind {p : Prog β} {f : β → Prog γ} {Q1 : Bytes → Bool → β → Prop}
    {Q2 : Bytes → Bool → γ → Prop} (hp : p.Spec Q1)
    (hf : ∀ v b1 f1, Q1 b1 f1 v → (f v).Spec fun more f2 w => Q2 (b1 ++ more) (f1 || f2) w) :
    (p.bind f).Spec Q2 := by
  induction p generalizing Q1 Q2 with
  | ret v => exact (hf v [] false hp).mono fun _ _ _ h => by simpa using h
  | exact n k ih =>
    exact fun r h1 h2 => ih r (hp r h1 h2) fun v b1 f1 q =>
      (hf v _ _ q).mono fun more f2 w h => by rwa [List.append_assoc, Bool.or_assoc] at h
  | until_ l k ih =>
    exact fun r h1 h2 => ih r (hp r h1 h2) fun v b1 f1 q =>
      (hf v _ _ q).mono fun more f2 w h => by rwa [List.append_assoc, Bool.or_assoc] at h

/-- where a run on the flat stream stops is further down the stream -/
theorem run_flat_suffix (p : Prog β) : ∀ is : List Item, (p.run flatSrc is).2 <:+ is := by
  induction p with
  | ret v => intro is; exact List.suffix_refl _
  | exact n k ih => intro is; exact (ih _ _).trans (specExact_suffix n is)
  | until_ l k ih => intro is; exact (ih _ _).trans (specUntil_suffix l is [])

/-- an Interrupted error in front of the flat stream changes no value: both primitives retry it -/
theorem run_flat_intr (p : Prog β) : ∀ X : List Item,
    (p.run flatSrc (.err 0 :: X)).1 = (p.run flatSrc X).1 := by
  induction p with
  | ret v => intro X; rfl
  | exact n k ih =>
    intro X
    rw [run_exact, run_exact, flatSrc_readExact, flatSrc_readExact]
    cases n with
    | zero => simp only [specExact_zero]; exact ih _ X
    | succ n => rw [show specExact (n + 1) (.err 0 :: X) = specExact (n + 1) X by simp [specExact]]
  | until_ l k ih =>
    intro X
    rw [run_until, run_until, flatSrc_readUntil, flatSrc_readUntil]
    cases l with
    | zero => simp only [specUntil_zero]; exact ih _ X
    | succ l =>
      rw [show specUntil (l + 1) (.err 0 :: X) [] = specUntil (l + 1) X [] by simp [specUntil]]

/-- on the flat stream: the value obeys the contract, and if no call failed the run consumed a clean
    piece of the stream holding exactly the bytes of the calls -/
theorem run_flat_spec {Q : Bytes → Bool → β → Prop} (p : Prog β) (hp : p.Spec Q) :
    ∀ is : List Item, ∃ bs f, Q bs f (p.run flatSrc is).1 ∧
      (f = false → Adv is (p.run flatSrc is).2 bs) := by
  induction p generalizing Q with
  | ret v => intro is; exact ⟨[], false, hp, fun _ => Adv.refl _⟩
  | exact n k ih =>
    intro is
    rw [run_exact, flatSrc_readExact]
    obtain ⟨more, f, hq, ha⟩ :=
      ih _ (hp _ (specExact_ne_panic n is) fun _ h => (specExact_ok h).1) (specExact n is).2
    exact ⟨_, _, hq, fun hf =>
      (specExact_adv (Bool.or_eq_false_iff.mp hf).1).trans (ha (Bool.or_eq_false_iff.mp hf).2)⟩
  | until_ l k ih =>
    intro is
    rw [run_until, flatSrc_readUntil]
    obtain ⟨more, f, hq, ha⟩ :=
      ih _ (hp _ (specUntil_ne_panic l is []) fun _ _ h => (specUntil_ok h).1) (specUntil l is []).2
    exact ⟨_, _, hq, fun hf =>
      (specUntil_adv (Bool.or_eq_false_iff.mp hf).1).trans (ha (Bool.or_eq_false_iff.mp hf).2)⟩

/-- on a cut stream a program runs as on the complete stream, or a call fails: it ends in what its
    contract says of a failed run -/
theorem run_cut {tail F : List Item} (hd : Dead tail) {Q : Bytes → Bool → β → Prop}
    {bad : β → Prop} (p : Prog β) (hp : p.Spec Q) (hbad : ∀ bs v, Q bs true v → bad v) :
    ∀ full cut, CutRel tail F full cut →
    ((p.run flatSrc full).1 = (p.run flatSrc cut).1 ∧
      CutRel tail F (p.run flatSrc full).2 (p.run flatSrc cut).2) ∨ bad (p.run flatSrc cut).1 := by
  induction p generalizing Q with
  | ret v => intro full cut h; exact .inl ⟨rfl, h⟩
  | exact n k ih =>
    intro full cut h
    simp only [run_exact, flatSrc_readExact]
    have hk := hp _ (specExact_ne_panic n cut) fun _ h => (specExact_ok h).1
    rcases specExact_cut hd n h with ⟨e, hr⟩ | hb
    · rw [e]
      exact ih _ hk (fun bs v q => hbad _ v (by simpa using q)) _ _ hr
    · obtain ⟨bs, f, q, _⟩ := run_flat_spec _ hk (specExact n cut).2
      have : (!(specExact n cut).1.isOk) = true := by
        rcases hb with ⟨e, he⟩ | he <;> rw [he] <;> rfl
      rw [this, Bool.true_or] at q
      exact .inr (hbad _ _ q)
  | until_ l k ih =>
    intro full cut h
    simp only [run_until, flatSrc_readUntil]
    have hk := hp _ (specUntil_ne_panic l cut []) fun _ _ h => (specUntil_ok h).1
    rcases specUntil_cut hd l h with ⟨e, hr⟩ | hb
    · rw [e]
      exact ih _ hk (fun bs v q => hbad _ v (by simpa using q)) _ _ hr
    · obtain ⟨bs, f, q, _⟩ := run_flat_spec _ hk (specUntil l cut []).2
      have : (specUntil l cut []).1.noLine = true := by
        rcases hb with (⟨e, he⟩ | he) | ⟨bs, l', he, h10⟩
        · rw [he]; rfl
        · rw [he]; rfl
        · rw [he]; simpa [RR.noLine] using h10
      rw [this, Bool.true_or] at q
      exact .inr (hbad _ _ q)

end Prog

/-! ### Going on with a sub-result -/

/-- go on with the value of a sub-result, or hand its failure up -/
theorem RR.andThen_cases {x : RR α} {up : Fail → β} {f : α → Prog β} {Q : Bytes → Bool → β → Prop}
    (hp : x = .panic → Q [] false (up .panic)) (he : ∀ e, x = .err e → Q [] false (up (.err e)))
    (hb : x = .blocked → Q [] false (up .blocked)) (hf : ∀ v, x = .ok v → (f v).Spec Q) :
    (x.andThen up f).Spec Q := by
  cases x with
  | ok v => exact hf v rfl
  | err e => exact he e rfl
  | blocked => exact hb rfl
  | panic => exact hp rfl

/-- … when the sub-result is not a panic -/
theorem RR.andThen_spec {x : RR α} {up : Fail → β} {f : α → Prog β} {Q : Bytes → Bool → β → Prop}
    (hx : x ≠ .panic) (he : ∀ e, x = .err e → Q [] false (up (.err e)))
    (hb : x = .blocked → Q [] false (up .blocked)) (hf : ∀ v, x = .ok v → (f v).Spec Q) :
    (x.andThen up f).Spec Q :=
  RR.andThen_cases (fun h => absurd h hx) he hb hf

/-- a call of `read_exact`, then go on with its bytes or hand its failure up -/
theorem Prog.Spec.exact_andThen {n : Nat} {up : Fail → β} {g : Bytes → Prog β}
    {Q : Bytes → Bool → β → Prop} (he : ∀ e, Q [] true (up (.err e))) (hb : Q [] true (up .blocked))
    (hg : ∀ bs, bs.length = n → (g bs).Spec fun more f v => Q (bs ++ more) f v) :
    (Prog.exact n fun r => r.andThen up g).Spec Q :=
  Prog.Spec.exact_iff.mpr fun r hr hl =>
    RR.andThen_spec hr (fun e h => by subst h; exact he e) (fun h => by subst h; exact hb)
      fun bs h => by subst h; exact hg bs (hl bs rfl)

/-- a call of `read_until`, then go on with what it read or hand its failure up; a line without LF
    counts as a failed call -/
theorem Prog.Spec.until_andThen {l : Nat} {up : Fail → β} {g : Bytes × Nat → Prog β}
    {Q : Bytes → Bool → β → Prop} (he : ∀ e, Q [] true (up (.err e))) (hb : Q [] true (up .blocked))
    (hg : ∀ bs l', bs.length + l' = l →
      (g (bs, l')).Spec fun more f v => Q (bs ++ more) (!bs.contains 10 || f) v) :
    (Prog.until_ l fun r => r.andThen up g).Spec Q :=
  Prog.Spec.until_iff.mpr fun r hr hl =>
    RR.andThen_spec hr (fun e h => by subst h; exact he e) (fun h => by subst h; exact hb)
      fun x h => by subst h; exact hg x.1 x.2 (hl x.1 x.2 rfl)

/-! ### The contract of a reader -/

/-- the contract of a reader: it does not panic; it fails when a call failed; when it succeeds no
    call failed and `T` relates the bytes to the value -/
structure Reads (T : Bytes → α → Prop) (bs : Bytes) (f : Bool) (v : RR α) : Prop where
  noPanic : v ≠ .panic
  bad_of_failed : f = true → v.Bad
  of_ok : ∀ x, v = .ok x → f = false ∧ T bs x

theorem Reads.err {T : Bytes → α → Prop} (bs : Bytes) (f : Bool) (e : E) : Reads T bs f (.err e) :=
  ⟨(fun h => nomatch h), fun _ => .err e, fun _ h => nomatch h⟩

theorem Reads.blocked {T : Bytes → α → Prop} (bs : Bytes) (f : Bool) : Reads T bs f .blocked :=
  ⟨(fun h => nomatch h), fun _ => .blocked, fun _ h => nomatch h⟩

theorem Reads.ok {T : Bytes → α → Prop} {bs : Bytes} {x : α} (h : T bs x) :
    Reads T bs false (.ok x) :=
  ⟨(fun h => nomatch h), (fun h => nomatch h), fun _ e => by cases e; exact ⟨rfl, h⟩⟩

theorem Reads.imp {T T' : Bytes → α → Prop} {bs bs' : Bytes} {f : Bool} {v : RR α}
    (h : ∀ x, T bs x → T' bs' x) (hv : Reads T bs f v) : Reads T' bs' f v :=
  ⟨hv.noPanic, hv.bad_of_failed, fun x hx => ⟨(hv.of_ok x hx).1, h _ (hv.of_ok x hx).2⟩⟩

/-- a sub-reader, then go on with its value or hand its failure up -/
theorem Prog.Spec.bind_andThen {p : Prog (RR α)} {up : Fail → β} {g : α → Prog β}
    {T : Bytes → α → Prop} {Q : Bytes → Bool → β → Prop} (hp : p.Spec (Reads T))
    (he : ∀ bs f e, Q bs f (up (.err e))) (hb : ∀ bs f, Q bs f (up .blocked))
    (hg : ∀ v b1, T b1 v → (g v).Spec fun more f w => Q (b1 ++ more) f w) :
    (p.bind fun x => x.andThen up g).Spec Q :=
  hp.bind fun x b1 f1 hx =>
    RR.andThen_spec hx.noPanic (fun e _ => he _ _ e) (fun _ => hb _ _) fun v hv => by
      obtain ⟨rfl, ht⟩ := hx.of_ok v hv
      exact (hg v b1 ht).mono fun _ _ _ h => by simpa using h

/-! ## The line readers -/

def readLineP (limit : Nat) : Prog (RR Bytes) :=
  .until_ limit fun r => r.andThen Fail.toRR fun x =>
    .ret (match stripEol x.1 with | some line => .ok line | none => .err .eof)

theorem readLine_eq_run (S : Src σ) (r : σ) (limit : Nat) :
    readLine S r limit = (readLineP limit).run S r := by
  unfold readLine readLineP
  rw [Prog.run_until]
  rcases S.readUntil r limit with ⟨res, r'⟩
  rcases res with ⟨bs, l⟩ | e | _ | _
  · simp only [RR.andThen, Prog.run_ret]; cases stripEol bs <;> rfl
  all_goals rfl

theorem readLineP_spec (l : Nat) :
    (readLineP l).Spec (Reads fun raw line => stripEol raw = some line ∧ line.length < l) :=
  Prog.Spec.until_andThen (fun e => Reads.err _ _ e) (Reads.blocked _ _) fun bs l' hl => by
    refine Prog.Spec.ret.mpr ?_
    show Reads _ (bs ++ []) (!bs.contains 10 || false)
      (match stripEol bs with | some line => RR.ok line | none => .err .eof)
    rw [List.append_nil, Bool.or_false]
    cases hst : stripEol bs with
    | none => exact Reads.err _ _ _
    | some line =>
      have h10 : bs.contains 10 = true := by simpa using stripEol_some_mem bs line hst
      rw [h10]
      have := stripEol_length bs line hst
      exact Reads.ok ⟨hst, by omega⟩

def readLineEndingP : Prog (RR Bool) :=
  .exact 1 fun r => r.andThen Fail.toRR fun
    | [b] =>
      if b = 13 then
        .exact 1 fun r2 => r2.andThen Fail.toRR fun
          | [b2] => .ret (.ok (b2 = 10))
          | _ => .ret .panic
      else .ret (.ok (b = 10))
    | _ => .ret .panic

theorem readLineEnding_eq_run (S : Src σ) (r : σ) :
    readLineEnding S r = readLineEndingP.run S r := by
  unfold readLineEnding readLineEndingP
  rw [Prog.run_exact]
  rcases S.readExact r 1 with ⟨res, r'⟩
  rcases res with (_ | ⟨b, _ | ⟨_, _⟩⟩) | e | _ | _
  case ok.cons.nil =>
    simp only [RR.andThen]
    split
    · rw [Prog.run_exact]
      rcases S.readExact r' 1 with ⟨res2, r''⟩
      rcases res2 with (_ | ⟨b2, _ | ⟨_, _⟩⟩) | e | _ | _ <;> rfl
    · rfl
  all_goals rfl

/-- `read_exact(1)` returned one byte: the `_ => panic` arms of `read_line_ending` are dead -/
theorem eq_singleton_of_length {bs : Bytes} (h : bs.length = 1) : ∃ b, bs = [b] :=
  match bs, h with
  | [b], _ => ⟨b, rfl⟩

theorem readLineEndingP_spec : readLineEndingP.Spec (Reads fun bs b => b = true → EolOK bs) :=
  Prog.Spec.exact_andThen (fun e => Reads.err _ _ e) (Reads.blocked _ _) fun bs hl => by
    obtain ⟨b, rfl⟩ := eq_singleton_of_length hl
    show Prog.Spec (if b = 13 then _ else _) _
    split
    · rename_i h13; subst h13
      refine Prog.Spec.exact_andThen (fun e => Reads.err _ _ e) (Reads.blocked _ _) fun bs2 hl2 => ?_
      obtain ⟨b2, rfl⟩ := eq_singleton_of_length hl2
      refine Prog.Spec.ret.mpr (Reads.ok (bs := [13, b2]) fun h => ?_)
      have : b2 = 10 := by simpa using h
      subst this; exact .inr rfl
    · refine Prog.Spec.ret.mpr (Reads.ok (bs := [b]) fun h => ?_)
      have : b = 10 := by simpa using h
      subst this; exact .inl rfl

def skipTrailersP : Nat → Prog (RR Bool)
  | 0 => .ret (.ok false)
  | k+1 => (readLineP Consts.trailerLineLimit).bind fun x =>
      x.andThen Fail.toRR fun line => if line = [] then .ret (.ok true) else skipTrailersP k

theorem skipTrailersLoop_eq_run (S : Src σ) (k : Nat) : ∀ r : σ,
    skipTrailersLoop S k r = (skipTrailersP k).run S r := by
  induction k with
  | zero => intro r; rfl
  | succ k ih =>
    intro r
    rw [skipTrailersLoop, skipTrailersP, Prog.run_bind, ← readLine_eq_run]
    rcases readLine S r Consts.trailerLineLimit with ⟨res, r'⟩
    cases res with
    | ok line =>
      simp only [RR.andThen]
      split
      · rfl
      · exact ih r'
    | _ => rfl

theorem skipTrailersP_spec : ∀ k, (skipTrailersP k).Spec (Reads fun bs b => b = true →
    ∃ (raws : List Bytes) (eol : Bytes), raws.length < k ∧
      (∀ raw ∈ raws, ∃ t, stripEol raw = some t ∧ t ≠ []) ∧ EolOK eol ∧ bs = raws.flatten ++ eol)
  | 0 => Prog.Spec.ret.mpr (Reads.ok fun h => nomatch h)
  | k+1 => (readLineP_spec _).bind_andThen (fun _ _ e => Reads.err _ _ e) (fun _ _ => Reads.blocked _ _)
      fun line raw ⟨hst, _⟩ => by
        split
        · rename_i hl; subst hl
          exact Prog.Spec.ret.mpr (Reads.ok (bs := raw ++ []) fun _ =>
            ⟨[], raw, Nat.succ_pos _, fun _ hx => by simp at hx, stripEol_nil_eol raw hst, by simp⟩)
        · rename_i hl
          refine (skipTrailersP_spec k).mono fun more f w h => h.imp fun b ht hb => ?_
          obtain ⟨raws, eol, hlen, hall, he, e⟩ := ht hb
          refine ⟨raw :: raws, eol, Nat.succ_lt_succ hlen, ?_, he, by simp [e]⟩
          intro y hy
          rcases List.mem_cons.mp hy with rfl | hy
          · exact ⟨line, hst, hl⟩
          · exact hall y hy

def chunkEndP (last : Bool) : Prog (RR Bool) :=
  if last then skipTrailersP (Consts.maxTrailerLines + 1) else readLineEndingP

theorem chunkEnd_eq_run (S : Src σ) (last : Bool) (r : σ) :
    chunkEnd S last r = (chunkEndP last).run S r := by
  unfold chunkEnd chunkEndP
  cases last
  · exact readLineEnding_eq_run S r
  · exact skipTrailersLoop_eq_run S _ r

/-- a trailer section as `skip_trailers` lets it pass: at most `Consts.maxTrailerLines` `read_line`
    lines (each ends in LF) whose content is not empty -/
def TrailerSec (trs : Bytes) : Prop :=
  ∃ raws : List Bytes, trs = raws.flatten ∧ raws.length ≤ Consts.maxTrailerLines ∧
    ∀ raw ∈ raws, ∃ t, stripEol raw = some t ∧ t ≠ []

theorem TrailerSec.nil : TrailerSec [] := ⟨[], rfl, Nat.zero_le _, fun _ h => by simp at h⟩

theorem chunkEndP_spec (last : Bool) : (chunkEndP last).Spec (Reads fun bs b => b = true →
    ∃ trs eol, TrailerSec trs ∧ (last = false → trs = []) ∧ EolOK eol ∧ bs = trs ++ eol) := by
  cases last with
  | false =>
    exact readLineEndingP_spec.mono fun bs _ _ h => h.imp fun b hb hv =>
      ⟨[], bs, TrailerSec.nil, fun _ => rfl, hb hv, rfl⟩
  | true =>
    refine (skipTrailersP_spec _).mono fun bs _ _ h => h.imp fun b hb hv => ?_
    obtain ⟨raws, eol, hlen, hall, he, e⟩ := hb hv
    exact ⟨raws.flatten, eol, ⟨raws, rfl, by omega, hall⟩, fun hf => Bool.noConfusion hf, he, e⟩

theorem skipTrailers_flat_ne_panic (r : List Item) : (skipTrailers flatSrc r).1 ≠ .panic := by
  rw [skipTrailers, skipTrailersLoop_eq_run]
  obtain ⟨_, _, h, _⟩ := Prog.run_flat_spec _ (skipTrailersP_spec _) r
  exact h.noPanic

theorem chunkEnd_flat_ne_panic (last : Bool) (r : List Item) :
    (chunkEnd flatSrc last r).1 ≠ .panic := by
  rw [chunkEnd_eq_run]
  obtain ⟨_, _, h, _⟩ := Prog.run_flat_spec _ (chunkEndP_spec last) r
  exact h.noPanic

/-! ## The chunked decoder

The operations of the decoder keep their source in the state (`Chunked.inner`); as programs they
work on the rest of the state (`Core`) and `lift` puts the source back. -/

/-- the decoder state without the source -/
abbrev Core := Chunked Unit

abbrev Chunked.core (c : Chunked σ) : Core :=
  { inner := (), buffer := c.buffer, consumed := c.consumed, remaining := c.remaining,
    reachedEof := c.reachedEof, failed := c.failed }

def Chunked.over (k : Core) (r : σ) : Chunked σ :=
  { inner := r, buffer := k.buffer, consumed := k.consumed, remaining := k.remaining,
    reachedEof := k.reachedEof, failed := k.failed }


/-- the clamp of `consume` keeps the slice index in range, on any source -/
theorem Chunked.consume_inv (c : Chunked σ) (k : Nat) :
    (c.consume k).consumed ≤ (c.consume k).buffer.length := by
  simp only [Chunked.consume]; omega

/-- result and state of a decoder operation from the run of its program -/
def lift (x : (RR α × Core) × σ) : RR α × Chunked σ := (x.1.1, x.1.2.over x.2)

/-- an operation hands a failure up together with the state `k` -/
def Fail.op (k : Core) (x : Fail) : RR α × Core := (x.toRR, k)

/-- the contract of a decoder operation: its result is read as `Reads` says, `T` relating the bytes
    to the value and the state, and `guard` holds of result and state in every case -/
structure Op (G : RR α × Core → Prop) (T : Bytes → α → Core → Prop) (bs : Bytes) (f : Bool)
    (x : RR α × Core) : Prop extends Reads (fun bs a => T bs a x.2) bs f x.1 where
  guard : G x

theorem Op.imp {G G' : RR α × Core → Prop} {T T' : Bytes → α → Core → Prop} {bs bs' : Bytes}
    {f : Bool} {x : RR α × Core} (hg : G x → G' x) (ht : ∀ a, T bs a x.2 → T' bs' a x.2)
    (h : Op G T bs f x) : Op G' T' bs' f x :=
  ⟨h.toReads.imp ht, hg h.guard⟩

/-- the operation that took `c` to `x` on the flat stream kept the contract `Q`, and if none of its
    calls failed it consumed a clean piece of the stream holding their bytes `bs` -/
def OnFlat (Q : Bytes → Bool → RR α × Core → Prop) (c : Chunked (List Item))
    (x : RR α × Chunked (List Item)) : Prop :=
  ∃ bs f, Q bs f (x.1, x.2.core) ∧ (f = false → Adv c.inner x.2.inner bs)

theorem OnFlat.of_run {p : Prog (RR α × Core)} {Q : Bytes → Bool → RR α × Core → Prop}
    (hp : p.Spec Q) (c : Chunked (List Item)) : OnFlat Q c (lift (p.run flatSrc c.inner)) :=
  Prog.run_flat_spec p hp c.inner

/-! ### `read_chunk_size` -/

def readChunkSizeP (k : Core) : Prog (RR Nat × Core) :=
  (readLineP Consts.chunkSizeLineLimit).bind fun x => x.andThen (Fail.op k) fun line =>
    .ret (if line = [] then .err .eof
          else (match parseChunkSize line with | .ok n => .ok n | .error e => .err e),
          { k with buffer := line })

theorem readChunkSize_eq_run (S : Src σ) (c : Chunked σ) :
    c.readChunkSize S = lift ((readChunkSizeP c.core).run S c.inner) := by
  unfold Chunked.readChunkSize readChunkSizeP
  rw [Prog.run_bind, ← readLine_eq_run]
  rcases readLine S c.inner Consts.chunkSizeLineLimit with ⟨res, r'⟩
  cases res with
  | ok line =>
    simp only [RR.andThen, Prog.run_ret]
    split
    · rfl
    · cases parseChunkSize line <;> rfl
  | _ => rfl

/-- the contract of `read_chunk_size`: it leaves the state alone but for the buffer, which it leaves
    alone or fills with a size line strictly shorter than `Consts.chunkSizeLineLimit`; when it
    succeeds the buffer IS the size line, and the line parses to the value -/
abbrev ReadsSize (k : Core) : Bytes → Bool → RR Nat × Core → Prop :=
  Op (fun x => ∃ buf, x.2 = { k with buffer := buf } ∧
      (buf = k.buffer ∨ buf.length < Consts.chunkSizeLineLimit))
    fun raw n k' => k'.buffer.length < Consts.chunkSizeLineLimit ∧
      ∃ l, stripEol raw = some l ∧ parseChunkSize l = .ok n

theorem readChunkSizeP_spec (k : Core) : (readChunkSizeP k).Spec (ReadsSize k) :=
  (readLineP_spec _).bind_andThen (fun _ _ e => ⟨Reads.err _ _ e, _, rfl, .inl rfl⟩)
    (fun _ _ => ⟨Reads.blocked _ _, _, rfl, .inl rfl⟩) fun line raw ⟨hst, hlen⟩ => by
      refine Prog.Spec.ret.mpr ?_
      show ReadsSize k (raw ++ []) false (if line = [] then RR.err E.eof else _, _)
      rw [List.append_nil]
      split
      · exact ⟨Reads.err _ _ _, _, rfl, .inr hlen⟩
      · cases hp : parseChunkSize line with
        | ok n => exact ⟨Reads.ok ⟨hlen, line, hst, hp⟩, _, rfl, .inr hlen⟩
        | error e => exact ⟨Reads.err _ _ _, _, rfl, .inr hlen⟩

theorem Chunked.readChunkSize_flat_spec (c : Chunked (List Item)) :
    OnFlat (ReadsSize c.core) c (c.readChunkSize flatSrc) := by
  rw [readChunkSize_eq_run]
  exact .of_run (readChunkSizeP_spec _) c

/-! ### `refill`: the data part -/

def refillDataP (k : Core) (maxBuf : Nat) : Prog (RR Unit × Core) :=
  .exact (min k.remaining maxBuf) fun r => r.andThen (Fail.op k) fun bs =>
    if k.remaining < bs.length then .ret (.panic, k) else
    if k.remaining - bs.length = 0 then
      (chunkEndP k.reachedEof).bind fun x =>
        x.andThen (Fail.op { k with buffer := bs, consumed := 0, remaining := 0 }) fun
          | true => .ret (.ok (), { k with buffer := bs, consumed := 0, remaining := 0 })
          | false =>
            .ret (.err .chunk,
              { k with buffer := [], consumed := 0, remaining := 0, reachedEof := true })
    else .ret (.ok (), { k with buffer := bs, consumed := 0, remaining := k.remaining - bs.length })

theorem refillData_eq_run (S : Src σ) (c : Chunked σ) (m : Nat) :
    c.refillData S m = lift ((refillDataP c.core m).run S c.inner) := by
  unfold Chunked.refillData refillDataP
  rw [Prog.run_exact]
  rcases S.readExact c.inner (min c.remaining m) with ⟨res, r'⟩
  cases res with
  | ok bs =>
    simp only [RR.andThen]
    split
    · rfl
    · split
      · rw [Prog.run_bind, ← chunkEnd_eq_run]
        rcases chunkEnd S c.reachedEof r' with ⟨res2, r''⟩
        rcases res2 with (_ | _) | e | _ | _ <;> rfl
      · rfl
  | _ => rfl

/-- the state after a successful data refill with `rem0` bytes of the chunk outstanding, and the
    bytes `bs` it consumed: the buffer holds the first `min rem0 m` of them, and if the chunk is
    complete what ends it (after the last-chunk: the trailer section `trs`; the line ending)
    follows -/
structure DataB (rem0 m : Nat) (bs : Bytes) (k' : Core) : Prop where
  consumed : k'.consumed = 0
  length : k'.buffer.length = min rem0 m
  remaining : k'.remaining = rem0 - min rem0 m
  bytes : (k'.remaining ≠ 0 ∧ bs = k'.buffer) ∨
    (k'.remaining = 0 ∧ ∃ trs eol, TrailerSec trs ∧ (k'.reachedEof = false → trs = []) ∧
      EolOK eol ∧ bs = k'.buffer ++ trs ++ eol)

theorem DataB.shape {rem0 m : Nat} {bs : Bytes} {k' : Core} (h : DataB rem0 m bs k') :
    ∃ t, bs = k'.buffer ++ t := by
  rcases h.bytes with ⟨_, e⟩ | ⟨_, trs, eol, _, _, _, e⟩
  · exact ⟨[], by rw [e, List.append_nil]⟩
  · exact ⟨trs ++ eol, by rw [e, List.append_assoc]⟩

/-- the contract of the data part of a refill: it stores at most `maxBuf` bytes or leaves the buffer
    alone; when it succeeds the flags are unchanged and the bytes are data and, if the chunk is
    complete, what ends it -/
abbrev RefillsData (k : Core) (m : Nat) : Bytes → Bool → RR Unit × Core → Prop :=
  Op (fun x => x.2.buffer.length ≤ m ∨ x.2.buffer = k.buffer)
    fun bs _ k' => k'.failed = k.failed ∧ k'.reachedEof = k.reachedEof ∧ DataB k.remaining m bs k'

theorem refillDataP_spec (k : Core) (m : Nat) : (refillDataP k m).Spec (RefillsData k m) :=
  Prog.Spec.exact_andThen (fun e => ⟨Reads.err _ _ e, .inr rfl⟩) ⟨Reads.blocked _ _, .inr rfl⟩
    fun bs hlen => by
    -- `remaining -= buffer.len()` does not underflow: `read_exact` returned `min remaining m` bytes
    have h1 : ¬ k.remaining < bs.length := by omega
    have hle : bs.length ≤ m := by omega
    show Prog.Spec (if k.remaining < bs.length then _ else _) _
    rw [if_neg h1]
    split
    · rename_i h0
      refine (chunkEndP_spec _).bind_andThen (fun _ _ e => ⟨Reads.err _ _ e, .inl hle⟩)
        (fun _ _ => ⟨Reads.blocked _ _, .inl hle⟩) fun b tl ht => ?_
      cases b with
      | false => exact Prog.Spec.ret.mpr ⟨Reads.err _ _ _, .inl (Nat.zero_le _)⟩
      | true =>
        obtain ⟨trs, eol, h1, h2, h3, e⟩ := ht rfl
        refine Prog.Spec.ret.mpr ⟨Reads.ok (bs := bs ++ (tl ++ []))
          ⟨rfl, rfl, rfl, hlen, ?_, .inr ⟨rfl, trs, eol, h1, h2, h3, ?_⟩⟩, .inl hle⟩
        · show 0 = k.remaining - min k.remaining m; omega
        · rw [List.append_nil, e, List.append_assoc]
    · rename_i h0
      refine Prog.Spec.ret.mpr ⟨Reads.ok (bs := bs ++ [])
        ⟨rfl, rfl, rfl, hlen, ?_, .inl ⟨h0, List.append_nil _⟩⟩, .inl hle⟩
      show k.remaining - bs.length = k.remaining - min k.remaining m
      rw [hlen]

theorem Chunked.refillData_flat_spec (c : Chunked (List Item)) (m : Nat) :
    OnFlat (RefillsData c.core m) c (c.refillData flatSrc m) := by
  rw [refillData_eq_run]
  exact .of_run (refillDataP_spec _ m) c

/-! ### `refill` -/

def refillP (k : Core) (maxBuf : Nat) : Prog (RR Unit × Core) :=
  if k.remaining = 0 then
    (readChunkSizeP k).bind fun x => x.1.andThen (Fail.op x.2) fun n =>
      refillDataP { x.2 with remaining := n, reachedEof := x.2.reachedEof || n == 0 } maxBuf
  else refillDataP k maxBuf

theorem refill_eq_run (S : Src σ) (c : Chunked σ) (m : Nat) :
    c.refill S m = lift ((refillP c.core m).run S c.inner) := by
  unfold Chunked.refill refillP
  split
  · rw [Prog.run_bind, readChunkSize_eq_run]
    rcases (readChunkSizeP c.core).run S c.inner with ⟨⟨res, k'⟩, r'⟩
    cases res with
    | ok n => exact refillData_eq_run S _ m
    | _ => rfl
  · exact refillData_eq_run S c m

/-- a successful refill and the bytes `bs` it consumed: in the middle of a chunk data only, at a
    chunk boundary a size line `raw` that parses to `sz`, then data -/
def RefillB (k : Core) (m : Nat) (bs : Bytes) (k' : Core) : Prop :=
  (k.remaining ≠ 0 ∧ k'.reachedEof = k.reachedEof ∧ DataB k.remaining m bs k') ∨
  (k.remaining = 0 ∧ ∃ raw l sz more, stripEol raw = some l ∧ parseChunkSize l = .ok sz ∧
    bs = raw ++ more ∧ k'.reachedEof = (k.reachedEof || sz == 0) ∧ DataB sz m more k')

theorem RefillB.shape {k k' : Core} {m : Nat} {bs : Bytes} (h : RefillB k m bs k') :
    k'.consumed = 0 ∧ ∃ pre t, bs = pre ++ k'.buffer ++ t := by
  rcases h with ⟨_, _, hd⟩ | ⟨_, raw, l, sz, more, _, _, e, _, hd⟩
  · obtain ⟨t, ht⟩ := hd.shape
    exact ⟨hd.consumed, [], t, by rw [ht, List.nil_append]⟩
  · obtain ⟨t, ht⟩ := hd.shape
    exact ⟨hd.consumed, raw, t, by rw [e, ht, List.append_assoc]⟩

/-- the contract of a refill: it leaves in the buffer at most `max maxBuf Consts.chunkSizeLineLimit`
    bytes or what was there; when it succeeds `failed` is unchanged and the bytes are those of
    `RefillB` -/
abbrev Refills (k : Core) (m : Nat) : Bytes → Bool → RR Unit × Core → Prop :=
  Op (fun x => x.2.buffer.length ≤ max m Consts.chunkSizeLineLimit ∨ x.2.buffer = k.buffer)
    fun bs _ k' => k'.failed = k.failed ∧ RefillB k m bs k'

theorem refillP_spec (k : Core) (m : Nat) : (refillP k m).Spec (Refills k m) := by
  unfold refillP
  split
  · rename_i hr
    refine (readChunkSizeP_spec k).bind fun x raw f1 hx => ?_
    obtain ⟨res, k1⟩ := x
    obtain ⟨buf, hk, hbuf⟩ := hx.guard
    have hG : k1.buffer.length ≤ max m Consts.chunkSizeLineLimit ∨ k1.buffer = k.buffer := by
      rw [show k1 = { k with buffer := buf } from hk]
      rcases hbuf with h | h
      · exact .inr h
      · exact .inl (by show buf.length ≤ _; omega)
    refine RR.andThen_spec hx.noPanic (fun e _ => ⟨Reads.err _ _ e, hG⟩)
      (fun _ => ⟨Reads.blocked _ _, hG⟩) fun sz hsz => ?_
    obtain ⟨rfl, _, l, hst, hp⟩ := hx.of_ok sz hsz
    subst hk
    refine (refillDataP_spec _ m).mono fun more f w hw => hw.imp
      (fun g => g.elim (fun h => .inl (by omega)) fun h => by rw [h]; exact hG)
      fun a ⟨e1, e2, e3⟩ => ⟨e1, .inr ⟨hr, raw, l, sz, more, hst, hp, rfl, e2, e3⟩⟩
  · rename_i hr
    refine (refillDataP_spec k m).mono fun bs f w hw => hw.imp
      (Or.imp_left fun h => by omega) fun a ⟨e1, e2, e3⟩ => ⟨e1, .inl ⟨hr, e2, e3⟩⟩

theorem Chunked.refill_flat_spec (c : Chunked (List Item)) (m : Nat) :
    OnFlat (Refills c.core m) c (c.refill flatSrc m) := by
  rw [refill_eq_run]
  exact .of_run (refillP_spec _ m) c

/-- where a refill on the flat stream stops is further down the stream -/
theorem Chunked.refill_flat_suffix (c : Chunked (List Item)) (m : Nat) :
    (c.refill flatSrc m).2.inner <:+ c.inner := by
  rw [refill_eq_run]
  exact Prog.run_flat_suffix _ _

/-! ### `fill_buf` and `read` -/

/-- the end of `fill_buf`: the slice `&self.buffer[self.consumed..]` -/
def sliceP (k : Core) : RR Bytes × Core :=
  if k.buffer.length < k.consumed then (.panic, k) else (.ok (k.buffer.drop k.consumed), k)

/-- … which is the end of the model's `fill_buf` once the source is put back -/
theorem lift_sliceP (k : Core) (r : σ) : lift (sliceP k, r) =
    if (k.over r).buffer.length < (k.over r).consumed then (.panic, k.over r)
    else (.ok ((k.over r).buffer.drop (k.over r).consumed), k.over r) := by
  unfold sliceP lift
  split
  · rename_i h; exact (if_pos h).symm
  · rename_i h; exact (if_neg h).symm

/-- `fill_buf` latches a failed refill (not a panic) -/
def Fail.latch (k : Core) : Fail → RR α × Core
  | .panic => (.panic, k)
  | x => (x.toRR, { k with failed := true, buffer := [], consumed := 0 })

def fillBufP (k : Core) (maxBuf : Nat) : Prog (RR Bytes × Core) :=
  if k.failed then .ret (.err .chunk, k) else
  if k.buffer.length = k.consumed ∧ ¬ (k.remaining = 0 ∧ k.reachedEof) then
    (refillP k maxBuf).bind fun x => x.1.andThen (Fail.latch x.2) fun _ => .ret (sliceP x.2)
  else .ret (sliceP k)

theorem fillBuf_eq_run (S : Src σ) (c : Chunked σ) (m : Nat) :
    c.fillBuf S m = lift ((fillBufP c.core m).run S c.inner) := by
  unfold Chunked.fillBuf fillBufP
  split
  · rfl
  · by_cases hc : c.buffer.length = c.consumed ∧ ¬ (c.remaining = 0 ∧ c.reachedEof = true)
    · simp only [if_pos hc]
      rw [Prog.run_bind, refill_eq_run]
      rcases (refillP c.core m).run S c.inner with ⟨⟨res, k'⟩, r'⟩
      cases res with
      | ok u => exact (lift_sliceP k' r').symm
      | _ => rfl
    · simp only [if_neg hc]
      exact (lift_sliceP c.core c.inner).symm

def readP (k : Core) (maxBuf n : Nat) : Prog (RR Bytes × Core) :=
  (fillBufP k maxBuf).bind fun x => x.1.andThen (Fail.op x.2) fun avail =>
    .ret (.ok (avail.take n), x.2.consume (avail.take n).length)

theorem read_eq_run (S : Src σ) (c : Chunked σ) (m n : Nat) :
    c.read S m n = lift ((readP c.core m n).run S c.inner) := by
  unfold Chunked.read readP
  rw [Prog.run_bind, fillBuf_eq_run]
  rcases (fillBufP c.core m).run S c.inner with ⟨⟨res, k'⟩, r'⟩
  cases res <;> rfl

/-- the contract of `fill_buf` and `read`, which says nothing of the bytes: from a state whose slice
    index is in range they do not panic and keep it in range; a failed call fails them, latched; the
    buffer stays within its bound -/
structure Fills (k : Core) (m : Nat) (bs : Bytes) (f : Bool) (x : RR Bytes × Core) : Prop where
  inRange : k.consumed ≤ k.buffer.length → x.1 ≠ .panic ∧ x.2.consumed ≤ x.2.buffer.length
  latched : f = true → x.1.Bad ∧ x.2.failed = true
  bounded : x.2.buffer.length ≤ max m Consts.chunkSizeLineLimit ∨ x.2.buffer = k.buffer

theorem sliceP_fills (k k' : Core) (m : Nat) (bs : Bytes)
    (h : k.consumed ≤ k.buffer.length → k'.consumed ≤ k'.buffer.length)
    (hb : k'.buffer.length ≤ max m Consts.chunkSizeLineLimit ∨ k'.buffer = k.buffer) :
    Fills k m bs false (sliceP k') := by
  refine ⟨fun hk => ?_, (fun h => nomatch h), ?_⟩
  · have : ¬ k'.buffer.length < k'.consumed := by have := h hk; omega
    rw [sliceP, if_neg this]
    exact ⟨(fun h => nomatch h), h hk⟩
  · rw [sliceP]; split <;> exact hb

theorem fillBufP_spec (k : Core) (m : Nat) : (fillBufP k m).Spec (Fills k m) := by
  unfold fillBufP
  split
  · exact Prog.Spec.ret.mpr ⟨fun h => ⟨(fun h => nomatch h), h⟩, (fun h => nomatch h), .inr rfl⟩
  · split
    · refine (refillP_spec k m).bind fun x bs f1 hx => ?_
      refine RR.andThen_spec hx.noPanic (fun e _ => ?_) (fun _ => ?_) fun u hu => ?_
      · exact ⟨fun _ => ⟨(fun h => nomatch h), Nat.le_refl _⟩, fun _ => ⟨.err e, rfl⟩,
          .inl (Nat.zero_le _)⟩
      · exact ⟨fun _ => ⟨(fun h => nomatch h), Nat.le_refl _⟩, fun _ => ⟨.blocked, rfl⟩,
          .inl (Nat.zero_le _)⟩
      · obtain ⟨rfl, _, hB⟩ := hx.of_ok u hu
        refine Prog.Spec.ret.mpr (sliceP_fills k x.2 m _ (fun _ => ?_) hx.guard)
        rw [hB.shape.1]; exact Nat.zero_le _
    · exact Prog.Spec.ret.mpr (sliceP_fills k k m _ id (.inr rfl))

theorem readP_spec (k : Core) (m n : Nat) : (readP k m n).Spec (Fills k m) :=
  (fillBufP_spec k m).bind fun x bs f1 hx => by
    have hbad : (f1 || false) = true → x.1.Bad ∧ x.2.failed = true :=
      fun hf => hx.latched (by simpa using hf)
    refine RR.andThen_cases (fun hp => ?_) (fun e _ => ?_) (fun _ => ?_) fun av hav => ?_
    · refine ⟨fun hk => absurd hp (hx.inRange hk).1, fun hf => ?_, hx.bounded⟩
      have := (hbad hf).1
      rw [hp] at this
      rcases this with ⟨e, h⟩ | h <;> cases h
    · exact ⟨fun hk => ⟨(fun h => nomatch h), (hx.inRange hk).2⟩, fun hf => ⟨.err e, (hbad hf).2⟩,
        hx.bounded⟩
    · exact ⟨fun hk => ⟨(fun h => nomatch h), (hx.inRange hk).2⟩, fun hf => ⟨.blocked, (hbad hf).2⟩,
        hx.bounded⟩
    · refine Prog.Spec.ret.mpr
        ⟨fun _ => ⟨(fun h => nomatch h), Nat.min_le_right _ _⟩, fun hf => ?_, hx.bounded⟩
      have := (hbad hf).1
      rw [hav] at this
      exact absurd rfl (this.ne_ok av)

theorem Chunked.fillBuf_flat_spec (c : Chunked (List Item)) (m : Nat) :
    OnFlat (Fills c.core m) c (c.fillBuf flatSrc m) := by
  rw [fillBuf_eq_run]
  exact .of_run (fillBufP_spec _ m) c

theorem Chunked.read_flat_spec (c : Chunked (List Item)) (m n : Nat) :
    OnFlat (Fills c.core m) c (c.read flatSrc m n) := by
  rw [read_eq_run]
  exact .of_run (readP_spec _ m n) c

/-- an Interrupted error in front of the flat stream changes no result of a `read` -/
theorem Chunked.read_flat_intr (k : Core) (X : List Item) (m n : Nat) :
    ((k.over (.err 0 :: X)).read flatSrc m n).1 = ((k.over X).read flatSrc m n).1 := by
  rw [read_eq_run, read_eq_run]
  exact congrArg (·.1) (Prog.run_flat_intr (readP k m n) X)

/-- two decoder states that differ in their stream only: complete / cut -/
def CutC (tail F : List Item) (cf cc : Chunked (List Item)) : Prop :=
  cf.core = cc.core ∧ CutRel tail F cf.inner cc.inner

/-- a decoder on a cut stream runs in step with a decoder on a completion of the frame until it needs
    a byte behind the cut; then it fails, and latches the failure -/
theorem read_cut {tail F : List Item} (hd : Dead tail) {cf cc : Chunked (List Item)}
    (h : CutC tail F cf cc) (m n : Nat) :
    ((cf.read flatSrc m n).1 = (cc.read flatSrc m n).1 ∧
      CutC tail F (cf.read flatSrc m n).2 (cc.read flatSrc m n).2) ∨
    ((cc.read flatSrc m n).1.Bad ∧ (cc.read flatSrc m n).2.failed = true) := by
  obtain ⟨hc, hr⟩ := h
  rw [read_eq_run, read_eq_run, hc]
  rcases Prog.run_cut hd _ (readP_spec cc.core m n) (fun _ _ q => q.latched rfl) _ _ hr with
    ⟨e, hr'⟩ | hb
  · exact .inl ⟨congrArg (·.1) e, congrArg (·.2) e, hr'⟩
  · exact .inr hb

end Atto
