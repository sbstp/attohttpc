/-
  Atto/Lemmas/BufViewLemmas.lean — what Props/BufView.lean needs beside the run lemmas: a lawful
  consumer of the parsed response is a lawful consumer of its body, and no call of the `BufRead`
  view (`fill_buf` / `consume`, mixed with `read`) panics, over an arbitrary well-formed transport.
-/
import Atto.Lemmas.BufViewChunked
import Atto.Lemmas.NoPanic
namespace Atto

theorem lawful_of_lawfulT {m : Method} {mh cap maxBuf : Nat} {ops : List BOp} {t : Transport}
    {resp : Resp} (hp : parseResponse m mh cap t = .ok resp)
    (hlaw : lawfulT m mh cap maxBuf ops t = true) : lawful maxBuf ops resp.body = true := by
  simpa only [lawfulT, hp] using hlaw

/-! ## No panic, any stream, any consumer (lawful or not) -/

theorem Body.fillBuf_no_panic (b : Body) (maxBuf : Nat) (h : b.Ok) :
    (b.fillBuf maxBuf).1 ≠ .panic ∧ (b.fillBuf maxBuf).2.Ok := by
  cases b with
  | chunked c =>
    obtain ⟨h1, h2, h3⟩ := Chunked.fillBuf_sim bufSim c maxBuf h.1
    have hf := fillBuf_flat_ne_panic (c.mapInner BufR.flat) maxBuf h.2
    rw [← h1, ← h2] at hf
    rw [chunked_fill_eq]
    exact ⟨hf.1, h3, hf.2⟩
  | close r =>
    have hok := (fillBuf_spec r h).1
    have hnp := bufr_fillBuf_ne_panic r h
    simp only [Body.fillBuf]
    rcases hfb : r.fillBuf with ⟨res, r'⟩
    rw [hfb] at hok hnp
    rcases res with ⟨⟨⟩⟩ | e | _ | _
    · exact ⟨by simp, hok⟩
    · exact ⟨by simp, hok⟩
    · exact ⟨by simp, hok⟩
    · exact absurd rfl hnp
  | length r lim =>
    have hok := (fillBuf_spec r h).1
    have hnp := bufr_fillBuf_ne_panic r h
    simp only [Body.fillBuf]
    by_cases hl : lim = 0
    · simp only [hl, if_true]; exact ⟨by simp, h⟩
    · simp only [hl, if_false]
      rcases hfb : r.fillBuf with ⟨res, r'⟩
      rw [hfb] at hok hnp
      rcases res with ⟨⟨⟩⟩ | e | _ | _
      · simp only
        split
        · exact ⟨by simp, hok⟩
        · exact ⟨by simp, hok⟩
      · exact ⟨by simp, hok⟩
      · exact ⟨by simp, hok⟩
      · exact absurd rfl hnp

theorem Body.consume_ok (b : Body) (k : Nat) (h : b.Ok) : (b.consume k).Ok := by
  cases b with
  | chunked c => exact ⟨h.1, c.consume_inv k⟩
  | close r => exact h
  | length r lim => exact h

theorem Body.step_no_panic (b : Body) (maxBuf : Nat) (op : BOp) (h : b.Ok) :
    (b.step maxBuf op).1 ≠ .panic ∧ (b.step maxBuf op).2.Ok := by
  cases op with
  | read n =>
    obtain ⟨h1, h2⟩ := Body.read_no_panic b maxBuf n h
    rw [step_read]
    refine ⟨?_, h2⟩
    generalize (b.read maxBuf n).1 = res at h1 ⊢
    rcases res with bs | e | _ | _ <;> simp_all [BEv.ofRead]
  | fill =>
    obtain ⟨h1, h2⟩ := Body.fillBuf_no_panic b maxBuf h
    rw [step_fill]
    refine ⟨?_, h2⟩
    generalize (b.fillBuf maxBuf).1 = res at h1 ⊢
    rcases res with bs | e | _ | _ <;> simp_all [BEv.ofFill]
  | consume k =>
    rw [step_consume]
    exact ⟨by simp, Body.consume_ok b k h⟩

/-- A consumer issuing any sequence of calls never observes a panic. -/
theorem bufRun_no_panic (maxBuf : Nat) (ops : List BOp) : ∀ (b : Body), b.Ok →
    (∀ e ∈ (bufRun maxBuf ops b).1, e ≠ BEv.panic) ∧ (bufRun maxBuf ops b).2.Ok := by
  induction ops with
  | nil => intro b h; exact ⟨nofun, h⟩
  | cons op ops ih =>
    intro b h
    obtain ⟨h1, h2⟩ := Body.step_no_panic b maxBuf op h
    obtain ⟨i1, i2⟩ := ih _ h2
    rw [bufRun_cons]
    exact ⟨List.forall_mem_cons.2 ⟨h1, i1⟩, i2⟩

end Atto
