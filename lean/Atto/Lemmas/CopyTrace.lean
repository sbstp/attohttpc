/-
  Atto/Lemmas/CopyTrace.lean — lemmas about the trace model of `Response::write_to`
  (`copyTrace`, Model/Copy.lean):
  * the trace is a function (`traceEv`) of the events of the constant read schedule
    `List.replicate fuel sz`, like `drainLoop` is the fold `Dr.drEv` over them;
  * structure of a trace: every non-empty `Ok` read is followed at once by the `write_all` of the
    same bytes, nothing else is written;
  * `traceEv` against `Dr.drEv` (the drain model keeps the accumulator of the trace);
  * run lemmas: a `Content-Length` / close-delimited body in any scenario of `Exact` (complete, closed
    early, `x` arrived before the peer goes silent: `exact_trace`), a chunked body whose peer goes
    silent after complete chunks, or inside a chunk.
-/
import Atto.Model.Copy
import Atto.Lemmas.Drain
namespace Atto
namespace Cp

/-! ## The trace as a function of the read results -/

/-- what `io::copy` makes of a list of read results -/
def traceEv : List Ev → List CopyEv
  | [] => []
  | .ok bs :: es =>
    if bs = [] then [.read (.ok [])] else .read (.ok bs) :: .wrote bs :: traceEv es
  | .err e :: es => if e = .io 0 then .read (.err e) :: traceEv es else [.read (.err e)]
  | .blocked :: _ => [.read .blocked]
  | .panic :: _ => [.read .panic]

theorem copyTrace_eq (maxBuf sz : Nat) (fuel : Nat) (b : Body) :
    copyTrace maxBuf sz fuel b = traceEv (reads maxBuf (List.replicate fuel sz) b).1 := by
  fun_induction copyTrace maxBuf sz fuel b with
  | case1 => rfl
  | case3 fuel b bs b' hb h ih =>
    rw [List.replicate_succ, reads_cons, h, ih]
    exact (if_neg hb).symm
  | case4 fuel b b' h ih =>
    rw [List.replicate_succ, reads_cons, h, ih]
    exact (if_pos rfl).symm
  | case5 fuel b e b' he h =>
    rw [List.replicate_succ, reads_cons, h]
    exact (if_neg he).symm
  | case2 fuel b b' h | case6 fuel b b' h | case7 fuel b b' h =>
    rw [List.replicate_succ, reads_cons, h]
    rfl

theorem traceEv_ok_ne {bs : Bytes} (es : List Ev) (h : bs ≠ []) :
    traceEv (.ok bs :: es) = .read (.ok bs) :: .wrote bs :: traceEv es := by
  simp [traceEv, h]

theorem traceEv_ok_nil (es : List Ev) : traceEv (.ok [] :: es) = [.read (.ok [])] := by
  simp [traceEv]

theorem traceEv_intr (es : List Ev) :
    traceEv (.err (.io 0) :: es) = .read (.err (.io 0)) :: traceEv es := by
  simp [traceEv]

theorem traceEv_err {e : E} (es : List Ev) (h : e ≠ .io 0) :
    traceEv (.err e :: es) = [.read (.err e)] := by
  simp [traceEv, h]

/-! ## Structure of a trace -/

/-- a non-empty `Ok` read is followed at once by the `write_all` of the same bytes -/
theorem traceEv_next (es : List Ev) : ∀ (i : Nat) (bs : Bytes),
    (traceEv es)[i]? = some (.read (.ok bs)) → bs ≠ [] →
    (traceEv es)[i+1]? = some (.wrote bs) := by
  fun_induction traceEv es with
  | case1 => intro i bs h; cases h
  | case3 bs' es hb ih =>
    intro i bs h hne
    match i with
    | 0 => cases h; rfl
    | 1 => cases h
    | i + 2 => exact ih i bs h hne
  | case4 es ih =>
    intro i bs h hne
    cases i with
    | zero => cases h
    | succ i => exact ih i bs h hne
  | case2 | case5 | case6 | case7 =>
    intro i bs h hne
    cases i with
    | zero => cases h <;> exact absurd rfl hne
    | succ i => cases h

/-- every `write_all` hands over exactly what the read just before it returned -/
theorem traceEv_prev (es : List Ev) : ∀ (i : Nat) (bs : Bytes),
    (traceEv es)[i]? = some (.wrote bs) →
    ∃ j, i = j + 1 ∧ (traceEv es)[j]? = some (.read (.ok bs)) ∧ bs ≠ [] := by
  fun_induction traceEv es with
  | case1 => intro i bs h; cases h
  | case3 bs' es hb ih =>
    intro i bs h
    match i with
    | 0 => cases h
    | 1 => cases h; exact ⟨0, rfl, rfl, hb⟩
    | i + 2 =>
      obtain ⟨j, rfl, hj, hne⟩ := ih i bs h
      exact ⟨j + 2, rfl, hj, hne⟩
  | case4 es ih =>
    intro i bs h
    cases i with
    | zero => cases h
    | succ i =>
      obtain ⟨j, rfl, hj, hne⟩ := ih i bs h
      exact ⟨j + 1, rfl, hj, hne⟩
  | case2 | case5 | case6 | case7 =>
    intro i bs h
    cases i with
    | zero => cases h
    | succ i => cases h

/-- the writer has been given exactly what the reads returned -/
theorem writtenOf_traceEv (es : List Ev) : writtenOf (traceEv es) = readOf (traceEv es) := by
  fun_induction traceEv es with
  | case3 bs es hb ih => simp only [writtenOf, readOf, ih]
  | case4 es ih => simpa only [writtenOf, readOf] using ih
  | case1 | case2 | case5 | case6 | case7 => rfl

theorem readOf_eq (tr : List CopyEv) : readOf tr = deliveredEv (readsOf tr) := by
  induction tr with
  | nil => rfl
  | cons c tr ih =>
    cases c with
    | read e => cases e <;> simp [readOf, readsOf, deliveredEv, ih]
    | wrote bs => simp [readOf, readsOf, ih]

/-- the reads of the trace are the first results of the schedule, up to the one that ends the copy -/
theorem readsOf_traceEv_prefix (es : List Ev) : readsOf (traceEv es) <+: es := by
  fun_induction traceEv es with
  | case1 => exact List.prefix_refl _
  | case3 bs es hb ih => exact List.cons_prefix_cons.2 ⟨rfl, ih⟩
  | case4 es ih => exact List.cons_prefix_cons.2 ⟨rfl, ih⟩
  | case2 | case5 | case6 | case7 => exact List.prefix_append [_] _

/-! ## How a trace ends -/

/-- the trace of a list of that shape, when `x` ends the copy: `P` is with the writer and the trace
    ends with the read that returned `x` -/
theorem _root_.Atto.Shape.trace_end {P : Bytes} {x : Ev} {evs : List Ev} (h : Shape P x evs)
    (hx : ∀ es, traceEv (x :: es) = [.read x]) :
    writtenOf (traceEv evs) = P ∧ (traceEv evs).getLast? = some (.read x) := by
  obtain ⟨pre, es, h1, rfl, rfl⟩ := h
  induction pre with
  | nil => simp [hx, writtenOf]
  | cons e pre ih =>
    obtain ⟨i1, i2⟩ := ih (fun q hq => h1 q (List.mem_cons_of_mem _ hq))
    rcases h1 e List.mem_cons_self with ⟨bs, rfl, hb⟩ | rfl
    · rw [List.cons_append, traceEv_ok_ne _ hb]
      exact ⟨by simp [writtenOf, i1, deliveredEv], getLast?_cons_of_some (getLast?_cons_of_some i2)⟩
    · rw [List.cons_append, traceEv_intr]
      exact ⟨by simp [writtenOf, i1, deliveredEv], getLast?_cons_of_some i2⟩

/-- the trace against the drain fold: `drEv` ends the way the trace ends, and on success returns its
    accumulator extended by what the writer got -/
theorem drEv_trace (es : List Ev) : ∀ (acc : Bytes),
    (∀ a, Dr.drEv es acc = .ok a →
      a = acc ++ writtenOf (traceEv es) ∧ (traceEv es).getLast? = some (.read (.ok []))) ∧
    (∀ e, Dr.drEv es acc = .err e →
      (traceEv es).getLast? = some (.read (.err e)) ∧ e ≠ .io 0) ∧
    (Dr.drEv es acc = .blocked → (traceEv es).getLast? = some (.read .blocked)) ∧
    (Dr.drEv es acc = .panic →
      (traceEv es).getLast? = some (.read .panic) ∨ readsOf (traceEv es) = es) := by
  fun_induction traceEv es with
  | case1 => intro acc; simp [Dr.drEv, readsOf]
  | case2 es => intro acc; simp [Dr.drEv, writtenOf]
  | case3 bs es hb ih =>
    intro acc
    obtain ⟨h1, h2, h3, h4⟩ := ih (acc ++ bs)
    simp only [Dr.drEv, hb, if_false]
    refine ⟨fun a ha => ?_, fun e he => ?_, fun hbl => ?_, fun hp => ?_⟩
    · exact ⟨by rw [(h1 a ha).1]; simp [writtenOf],
        getLast?_cons_of_some (getLast?_cons_of_some (h1 a ha).2)⟩
    · exact ⟨getLast?_cons_of_some (getLast?_cons_of_some (h2 e he).1), (h2 e he).2⟩
    · exact getLast?_cons_of_some (getLast?_cons_of_some (h3 hbl))
    · exact (h4 hp).imp (fun h => getLast?_cons_of_some (getLast?_cons_of_some h))
        (fun h => by simp [readsOf, h])
  | case4 es ih =>
    intro acc
    obtain ⟨h1, h2, h3, h4⟩ := ih acc
    simp only [Dr.drEv, if_true]
    refine ⟨fun a ha => ?_, fun e he => ?_, fun hbl => ?_, fun hp => ?_⟩
    · exact ⟨by rw [(h1 a ha).1]; simp [writtenOf], getLast?_cons_of_some (h1 a ha).2⟩
    · exact ⟨getLast?_cons_of_some (h2 e he).1, (h2 e he).2⟩
    · exact getLast?_cons_of_some (h3 hbl)
    · exact (h4 hp).imp getLast?_cons_of_some (fun h => by simp [readsOf, h])
  | case5 e es he => intro acc; simp [Dr.drEv, he]
  | case6 es => intro acc; simp [Dr.drEv]
  | case7 es => intro acc; simp [Dr.drEv]

/-! ## `Content-Length` / close-delimited bodies in any scenario -/

/-- all of `x` goes to the writer, and the copy ends with the read that returned `endEv`: `Ok(0)`,
    `UnexpectedEof`, or the stall it sits in -/
theorem exact_trace (maxBuf : Nat) {sz : Nat} (hsz : 0 < sz) {b : Body} {x : Bytes}
    {d : Option Nat} {rest : List Item} (h : Exact b x d rest) (hs : Stable d rest) (fuel : Nat)
    (hf : x.length + 1 ≤ fuel) :
    writtenOf (copyTrace maxBuf sz fuel b) = x ∧
    (copyTrace maxBuf sz fuel b).getLast? = some (.read (endEv d sz rest)) := by
  rw [copyTrace_eq]
  refine (h.shape maxBuf hsz hf).trace_end fun es => ?_
  rcases hs.endEv hsz with he | he | he <;> rw [he]
  · exact traceEv_ok_nil es
  · exact traceEv_err es nofun
  · rfl

/-! ## Chunked bodies -/

/-- the trace of a chunked body behind the BufReader model over any well-formed transport is the
    trace of the decoder on the flat stream -/
theorem copyTrace_chunked_flat (r1 : BufR) (hok : r1.Ok) (maxBuf sz fuel : Nat) :
    copyTrace maxBuf sz fuel (.chunked { inner := r1 }) =
      traceEv (Dr.evsC maxBuf sz fuel (fresh r1.flat)) := by
  rw [copyTrace_eq, reads_chunked_flat r1 hok]
  rfl

/-- the decoder sits at a chunk boundary and the stream stalls there -/
theorem read_at_pause (c : Chunked (List Item)) (rest : List Item) (m n : Nat)
    (hf : c.failed = false) (he : c.reachedEof = false) (hl : c.buffer.length = c.consumed)
    (hr : c.remaining = 0) (hi : c.inner = .pause :: rest) :
    (c.read flatSrc m n).1 = .blocked := by
  -- the size line cannot be read, and the stall is handed up through `refill` and `fill_buf`
  have hrc : c.readChunkSize flatSrc = (.blocked, { c with inner := .pause :: rest }) := by
    simp [Chunked.readChunkSize, hi, readLine, flatSrc, chunkSizeLineLimit_eq, specUntil]
  have hrf : c.refill flatSrc m = (.blocked, { c with inner := .pause :: rest }) := by
    rw [Chunked.refill, if_pos hr, hrc]
  rw [read_of_fillBuf_blocked _ _ _ _ n
    (by rw [fillBuf_refill _ _ _ hf ⟨hl, by simp [he]⟩, hrf])]

section chunked
variable (m sz : Nat) (hm : 0 < m) (hsz : 0 < sz)
include hm hsz

/-- complete chunks with payload `P`, then the peer is silent: `P` goes to the writer, then the copy
    sits in a read that cannot return -/
theorem chunk_stall_trace (rest : List Item) (fuel : Nat) (c : Chunked (List Item)) (P : Bytes)
    (h : Rep c P (.pause :: rest)) (hf : P.length + 1 ≤ fuel) :
    writtenOf (traceEv (Dr.evsC m sz fuel c)) = P ∧
    (traceEv (Dr.evsC m sz fuel c)).getLast? = some (.read .blocked) := by
  rw [Dr.evsC, readsC_eq_runG]
  refine (shape_of_steps (flatStep m) sz (fun c P => Rep c P (.pause :: rest)) .blocked
    (fun c P hrep hP => ?_) (fun c hrep => ?_) fuel c P h hf).trace_end (fun _ => rfl)
  · obtain ⟨out, P', h1, rfl, _, hne, hrep'⟩ := step_progress c P _ m sz hm hrep hP
    exact ⟨out, P', by simp only [flatStep, h1]; rfl, hne hsz, rfl, hrep'⟩
  · obtain ⟨hf, he, hl, hr, hi⟩ := rep_nil c _ hrep
    simp only [flatStep, read_at_pause c rest m sz hf he hl hr hi]
    rfl

/-- how a copy ends on a cut stream: a stall or an error other than `Interrupted` -/
def EndsBad (tr : List CopyEv) : Prop :=
  tr.getLast? = some (.read .blocked) ∨ ∃ e, e ≠ .io 0 ∧ tr.getLast? = some (.read (.err e))

omit hm hsz in
theorem EndsBad.cons {a : CopyEv} {tr : List CopyEv} (h : EndsBad tr) : EndsBad (a :: tr) := by
  rcases h with h | ⟨e, he, h⟩
  · exact .inl (getLast?_cons_of_some h)
  · exact .inr ⟨e, he, getLast?_cons_of_some h⟩

/-- from a state inside the cut chunk: only genuine data of that chunk reaches the writer, and the
    copy ends with a stall or an error -/
theorem trunc_trace (tail : List Item) (hd : Dead tail) (fuel : Nat) (c : Chunked (List Item))
    (P : Bytes) (h : TRep tail c P) (hf : P.length + 2 ≤ fuel) :
    writtenOf (traceEv (Dr.evsC m sz fuel c)) <+: P ∧ EndsBad (traceEv (Dr.evsC m sz fuel c)) := by
  obtain ⟨w, x, hw, hx, hs⟩ :=
    Dr.trunc_shape tail hd m hm sz hsz fuel c P _ h (.inl (Nat.le_refl _)) hf
  rcases hx with rfl | ⟨e, h0, rfl⟩
  · obtain ⟨h1, h2⟩ := hs.trace_end fun _ => rfl
    exact ⟨h1 ▸ hw, .inl h2⟩
  · obtain ⟨h1, h2⟩ := hs.trace_end fun es => traceEv_err es h0
    exact ⟨h1 ▸ hw, .inr ⟨e, h0, h2⟩⟩

/-- complete chunks with payload `P`, then a chunk (data `d`) or the last-chunk (`d = []`) of which
    only a strict prefix `part` has arrived, then nothing more: the writer gets all of `P` and at
    most data of the cut chunk -/
theorem cut_trace (tail : List Item) (hd : Dead tail) (d part : Bytes)
    (hcut : ∀ c, Rep c [] (bytesI part ++ tail) → TRep tail c d) :
    ∀ (fuel : Nat) (c : Chunked (List Item)) (P : Bytes), Rep c P (bytesI part ++ tail) →
    P.length + d.length + 2 ≤ fuel →
    (∃ w, writtenOf (traceEv (Dr.evsC m sz fuel c)) = P ++ w ∧ w <+: d) ∧
    EndsBad (traceEv (Dr.evsC m sz fuel c)) := by
  intro fuel
  induction fuel with
  | zero => intro c P _ h; omega
  | succ fuel ih =>
    intro c P hrep hfuel
    by_cases hP : P = []
    · subst hP
      obtain ⟨h1, h2⟩ := trunc_trace m sz hm hsz tail hd (fuel+1) c _ (hcut c hrep)
        (by simp only [List.length_nil] at hfuel ⊢; omega)
      exact ⟨⟨writtenOf (traceEv (Dr.evsC m sz (fuel+1) c)), by simp, by simpa using h1⟩, h2⟩
    · obtain ⟨out, P', h1, rfl, _, hne, hrep'⟩ := step_progress c P _ m sz hm hrep hP
      have hb := hne hsz
      have hpos := List.length_pos_iff.mpr hb
      obtain ⟨⟨w, ih1, ihw⟩, ih2⟩ := ih _ P' hrep' (by rw [List.length_append] at hfuel; omega)
      rw [Dr.evsC_succ, h1]
      simp only [Ev.ofRR]
      rw [traceEv_ok_ne _ hb]
      exact ⟨⟨w, by simp [writtenOf, ih1], ihw⟩, ih2.cons.cons⟩

end chunked

end Cp
end Atto
