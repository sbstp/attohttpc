/-
  Atto/Lemmas/ChunkBuf.lean — the chunked decoder never holds a buffer proportional to a declared
  chunk size: after every operation `buffer.len() ≤ max(maxBuf, Consts.chunkSizeLineLimit)`,
  whatever the peer sends (the size line is read under `Take(Consts.chunkSizeLineLimit)`, the data
  with `resize(min(remaining, maxBuf))`).  Proved on the flat stream, lifted to the BufReader model
  over any scripted transport, and along whole read histories.
-/
import Atto.Lemmas.Sim

namespace Atto.ChunkBuf

theorem chunkSizeLineLimit_pos : 0 < Consts.chunkSizeLineLimit := by decide

theorem mapInner_buffer {σ τ : Type} (f : σ → τ) (c : Chunked σ) :
    (c.mapInner f).buffer = c.buffer := rfl

end Atto.ChunkBuf

namespace Atto

/-! ### the invariant, layer by layer -/

/-- the size line kept in the buffer is strictly shorter than `Consts.chunkSizeLineLimit`. -/
theorem Chunked.readChunkSize_buffer_strict_flat (c : Chunked (List Item)) :
    (c.readChunkSize flatSrc).2.buffer.length < Consts.chunkSizeLineLimit ∨
    (c.readChunkSize flatSrc).2.buffer = c.buffer := by
  obtain ⟨_, _, h, _⟩ := c.readChunkSize_flat_spec
  obtain ⟨buf, hk, hb⟩ := h.guard
  rw [show (c.readChunkSize flatSrc).2.buffer = buf from congrArg Chunked.buffer hk]
  exact hb.symm

theorem Chunked.readChunkSize_buffer_bounded_flat (c : Chunked (List Item)) (maxBuf : Nat) :
    c.buffer.length ≤ max maxBuf Consts.chunkSizeLineLimit →
    (c.readChunkSize flatSrc).2.buffer.length ≤ max maxBuf Consts.chunkSizeLineLimit := by
  intro hb
  rcases Chunked.readChunkSize_buffer_strict_flat c with h | h
  · omega
  · rw [h]; exact hb

/-- when `read_chunk_size` succeeds the buffer *is* the size line, `< Consts.chunkSizeLineLimit`. -/
theorem Chunked.readChunkSize_ok_buffer_strict_flat (c : Chunked (List Item)) (n : Nat) :
    (c.readChunkSize flatSrc).1 = .ok n →
    (c.readChunkSize flatSrc).2.buffer.length < Consts.chunkSizeLineLimit := by
  obtain ⟨_, _, h, _⟩ := c.readChunkSize_flat_spec
  exact fun hok => (h.of_ok n hok).2.1

theorem Chunked.refillData_buffer_bounded_flat (c : Chunked (List Item)) (maxBuf : Nat) :
    c.buffer.length ≤ max maxBuf Consts.chunkSizeLineLimit →
    (c.refillData flatSrc maxBuf).2.buffer.length ≤ max maxBuf Consts.chunkSizeLineLimit := by
  obtain ⟨_, _, h, _⟩ := c.refillData_flat_spec maxBuf
  intro hb
  rcases h.guard with h | h
  · exact Nat.le_trans h (Nat.le_max_left _ _)
  · exact Nat.le_trans (Nat.le_of_eq (congrArg List.length h)) hb

theorem Chunked.refill_buffer_bounded_flat (c : Chunked (List Item)) (maxBuf : Nat) :
    c.buffer.length ≤ max maxBuf Consts.chunkSizeLineLimit →
    (c.refill flatSrc maxBuf).2.buffer.length ≤ max maxBuf Consts.chunkSizeLineLimit := by
  obtain ⟨_, _, h, _⟩ := c.refill_flat_spec maxBuf
  intro hb
  rcases h.guard with h | h
  · exact h
  · exact Nat.le_trans (Nat.le_of_eq (congrArg List.length h)) hb

theorem Chunked.fillBuf_buffer_bounded_flat (c : Chunked (List Item)) (maxBuf : Nat) :
    c.buffer.length ≤ max maxBuf Consts.chunkSizeLineLimit →
    (c.fillBuf flatSrc maxBuf).2.buffer.length ≤ max maxBuf Consts.chunkSizeLineLimit := by
  obtain ⟨_, _, h, _⟩ := c.fillBuf_flat_spec maxBuf
  intro hb
  rcases h.bounded with h | h
  · exact h
  · exact Nat.le_trans (Nat.le_of_eq (congrArg List.length h)) hb

/-- one `read` on the flat stream preserves `buffer.len() ≤ max(maxBuf, Consts.chunkSizeLineLimit)`. -/
theorem Chunked.read_buffer_bounded_flat (c : Chunked (List Item)) (maxBuf n : Nat) :
    c.buffer.length ≤ max maxBuf Consts.chunkSizeLineLimit →
    (c.read flatSrc maxBuf n).2.buffer.length ≤ max maxBuf Consts.chunkSizeLineLimit := by
  obtain ⟨_, _, h, _⟩ := c.read_flat_spec maxBuf n
  intro hb
  rcases h.bounded with h | h
  · exact h
  · exact Nat.le_trans (Nat.le_of_eq (congrArg List.length h)) hb

/-! ### lift to the BufReader model over any scripted transport -/

/-- one `read` through the BufReader model (any segmentation, any capacity ≥ 1). -/
theorem Chunked.read_buffer_bounded_buf (c : Chunked BufR) (maxBuf n : Nat) :
    c.inner.Ok → c.buffer.length ≤ max maxBuf Consts.chunkSizeLineLimit →
    (c.read bufSrc maxBuf n).2.buffer.length ≤ max maxBuf Consts.chunkSizeLineLimit ∧
    (c.read bufSrc maxBuf n).2.inner.Ok := by
  intro hOk hb
  obtain ⟨-, h2, h3⟩ := Chunked.read_sim bufSim c maxBuf n hOk
  refine ⟨?_, h3⟩
  have hflat := Chunked.read_buffer_bounded_flat (c.mapInner BufR.flat) maxBuf n hb
  rw [← h2] at hflat
  exact hflat

/-! ### along a whole read history -/

/-- the invariant holds after any sequence of reads on the flat stream. -/
theorem readsC_buffer_bounded_flat (maxBuf : Nat) (ns : List Nat) (c : Chunked (List Item)) :
    c.buffer.length ≤ max maxBuf Consts.chunkSizeLineLimit →
    (readsC flatSrc maxBuf ns c).2.buffer.length ≤ max maxBuf Consts.chunkSizeLineLimit := by
  induction ns generalizing c with
  | nil => intro hb; exact hb
  | cons n ns ih =>
    intro hb
    have h1 := Chunked.read_buffer_bounded_flat c maxBuf n hb
    simp only [readsC]
    rcases h : c.read flatSrc maxBuf n with ⟨res, c'⟩
    rw [h] at h1
    exact ih c' h1

/-- the invariant holds after any sequence of reads through the BufReader model. -/
theorem readsC_buffer_bounded_buf (maxBuf : Nat) (ns : List Nat) (c : Chunked BufR) :
    c.inner.Ok → c.buffer.length ≤ max maxBuf Consts.chunkSizeLineLimit →
    (readsC bufSrc maxBuf ns c).2.buffer.length ≤ max maxBuf Consts.chunkSizeLineLimit ∧
    (readsC bufSrc maxBuf ns c).2.inner.Ok := by
  induction ns generalizing c with
  | nil => intro hOk hb; exact ⟨hb, hOk⟩
  | cons n ns ih =>
    intro hOk hb
    have h1 := Chunked.read_buffer_bounded_buf c maxBuf n hOk hb
    simp only [readsC]
    rcases h : c.read bufSrc maxBuf n with ⟨res, c'⟩
    rw [h] at h1
    exact ih c' h1.2 h1.1

end Atto
