/-
  Atto/Lemmas/LengthClose.lean — `Content-Length` (`Take<BufReader>` + early-EOF check) and
  close-delimited bodies read through the BufReader model over an arbitrary scripted transport:
  one-step specifications in terms of the flat stream, and the invariants with their step theorems
  (`ReadTracks`, Lemmas/Tracks.lean) and run lemmas used by Props/C01, C02, C19.
-/
import Atto.Lemmas.Tracks
namespace Atto

/-! ## One read on a close-delimited / Content-Length body -/

theorem close_read_eq (r : BufR) (m n : Nat) :
    (Body.close r).read m n = ((r.read n).1, .close (r.read n).2) := by
  simp [Body.read]

theorem length_read_zero (r : BufR) (m n : Nat) :
    (Body.length r 0).read m n = (.ok [], .length r 0) := by
  simp [Body.read]

/-- the check in `Take`'s place: `Ok(0)` into a non-empty buffer before the announced length is
    reached is `UnexpectedEof` -/
def eofRes (n : Nat) : RR Bytes → RR Bytes
  | .ok bs => if bs = [] ∧ n ≠ 0 then .err .eof else .ok bs
  | res => res

/-- the check changes neither the bytes handed out nor whether the read panics -/
theorem eofRes_spec (n : Nat) (res : RR Bytes) :
    (Ev.ofRR (eofRes n res)).bytes = (Ev.ofRR res).bytes ∧
    (Ev.ofRR res ≠ .panic → Ev.ofRR (eofRes n res) ≠ .panic) := by
  unfold eofRes
  split
  · split
    · next h => exact ⟨by rw [h.1]; rfl, fun _ => nofun⟩
    · exact ⟨rfl, id⟩
  · exact ⟨rfl, id⟩

/-- a read of a `Content-Length` body with a non-exhausted limit is a `BufReader::read` of at most
    the limit, charged against it (`Take`'s `assert!` holds: the reader returns at most what it was
    asked for) -/
theorem length_read_eq (r : BufR) (lim m n : Nat) (hl : 0 < lim) :
    (Body.length r lim).read m n =
      (eofRes n (r.read (min n lim)).1,
       .length (r.read (min n lim)).2 (lim - (r.read (min n lim)).1.got.length)) := by
  have hle := read_le r (min n lim)
  rw [Body.read, if_neg (Nat.ne_of_gt hl)]
  rcases hrd : r.read (min n lim) with ⟨bs | e | _ | _, r'⟩
  · have : ¬ lim < bs.length := by have := hle bs (by rw [hrd]); omega
    simp only [if_neg this, eofRes, RR.got]
    split
    · next h => rw [h.1]; rfl
    · rfl
  · rfl
  · rfl
  · rfl

/-- what follows is not a byte: the end of the stream, an error or a stall -/
def NoByte : List Item → Prop
  | .byte _ :: _ => False
  | _ => True

/-- what a `BufReader::read` returns on a stream that does not go on with a byte -/
def stopRes : List Item → RR Bytes
  | .err k :: _ => .err (.io k)
  | .pause :: _ => .blocked
  | _ => .ok []

theorem stopRes_got (F : List Item) : (stopRes F).got = [] := by
  unfold stopRes
  split <;> rfl

/-- a read where the stream does not go on with a byte: `stopRes`; the stream stays as it is unless
    an error item was consumed -/
theorem read_stop (r : BufR) (n : Nat) (h : r.Ok) (hnb : NoByte r.flat) :
    (r.read n).1 = stopRes r.flat ∧ (r.read n).2.Ok ∧
    ((∀ k F, r.flat ≠ .err k :: F) → (r.read n).2.flat = r.flat) := by
  obtain ⟨hok', hm⟩ := read_any_spec r n h
  rcases hfl : r.flat with _ | ⟨(b | k | _), rest⟩ <;> rw [hfl] at hm hnb
  · exact ⟨hm.1, hok', fun _ => hm.2⟩
  · exact hnb.elim
  · exact ⟨hm.1, hok', fun hs => absurd rfl (hs k rest)⟩
  · exact ⟨hm.1, hok', fun _ => hm.2⟩

/-- a stream that starts with the bytes `c :: rem` starts with the item `byte c` (the form the one-step
    specifications match on) -/
theorem flat_cons_of {F : List Item} {c : UInt8} {rem : Bytes} {trail : List Item}
    (h : F = bytesI (c :: rem) ++ trail) : F = .byte c :: (bytesI rem ++ trail) := h

/-! ## `Exact`: what a `Content-Length` / close-delimited body hands out next

One invariant for every scenario on these two framings (complete body, body closed early, peer gone
silent, arrived bytes): they differ in the slack `d` of the announced length and in what follows in
the stream, `rest`, and those two decide what a read returns once `x` is exhausted (`endEv`). -/

/-- every stream is some bytes followed by something that does not start with a byte -/
theorem exists_leading : ∀ F : List Item, ∃ y rest, F = bytesI y ++ rest ∧ NoByte rest
  | [] => ⟨[], [], rfl, trivial⟩
  | .byte b :: F => by
    obtain ⟨y, rest, h, hn⟩ := exists_leading F
    exact ⟨b :: y, rest, by rw [h]; rfl, hn⟩
  | .err k :: F => ⟨[], .err k :: F, rfl, trivial⟩
  | .pause :: F => ⟨[], .pause :: F, rfl, trivial⟩

/-- bytes read off a stream that continues with a non-byte after `x` lie within `x` -/
theorem bytesI_le_of_noByte (bs : Bytes) : ∀ (x : Bytes) (F rest : List Item),
    bytesI bs ++ F = bytesI x ++ rest → NoByte rest → bs.length ≤ x.length := by
  induction bs with
  | nil => intro x F rest _ _; exact Nat.zero_le _
  | cons b bs ih =>
    intro x F rest h hn
    cases x with
    | nil =>
      cases rest with
      | nil => cases h
      | cons i rest =>
        cases i with
        | byte c => exact hn.elim
        | err k => cases h
        | pause => cases h
    | cons c x => exact Nat.succ_le_succ (ih x F rest (List.cons.inj h).2 hn)

/-- `x` is what a `Content-Length` (`d = some k`: `k` more bytes are announced behind `x`) or
    close-delimited (`d = none`) body hands out next: it is ahead in the stream, within the announced
    length, and no read can run past it, because the announced length ends there or what follows in the
    stream, `rest`, does not start with a byte. -/
def Exact (b : Body) (x : Bytes) (d : Option Nat) (rest : List Item) : Prop :=
  match b, d with
  | .length r lim, some k =>
    r.Ok ∧ lim = x.length + k ∧ r.flat = bytesI x ++ rest ∧ (0 < k → NoByte rest)
  | .close r, none => r.Ok ∧ r.flat = bytesI x ++ rest ∧ NoByte rest
  | _, _ => False

theorem Exact.length {r : BufR} {lim k : Nat} {x : Bytes} {rest : List Item} (hok : r.Ok)
    (hlim : lim = x.length + k) (hfl : r.flat = bytesI x ++ rest) (hnb : 0 < k → NoByte rest) :
    Exact (.length r lim) x (some k) rest :=
  ⟨hok, hlim, hfl, hnb⟩

theorem Exact.close {r : BufR} {x : Bytes} {rest : List Item} (hok : r.Ok)
    (hfl : r.flat = bytesI x ++ rest) (hnb : NoByte rest) : Exact (.close r) x none rest :=
  ⟨hok, hfl, hnb⟩

/-- a complete `Content-Length` body: the announced length ends with `x` -/
theorem Exact.complete_length {r : BufR} {x : Bytes} {trail : List Item} (hok : r.Ok)
    (hfl : r.flat = bytesI x ++ trail) : Exact (.length r x.length) x (some 0) trail :=
  .length hok rfl hfl fun h => absurd h (Nat.lt_irrefl 0)

/-- a complete close-delimited body: the stream ends with `x` -/
theorem Exact.complete_close {r : BufR} {x : Bytes} (hok : r.Ok) (hfl : r.flat = bytesI x) :
    Exact (.close r) x none [] :=
  .close hok (by rw [hfl, List.append_nil]) trivial

/-- a `Content-Length` body closed early: the stream ends with `x`, more is announced -/
theorem Exact.cut {r : BufR} {lim : Nat} {x : Bytes} (hok : r.Ok) (hlt : x.length < lim)
    (hfl : r.flat = bytesI x) : Exact (.length r lim) x (some (lim - x.length)) [] :=
  .length hok (by omega) (by rw [hfl, List.append_nil]) fun _ => trivial

/-- a `BufReader::read` in front of `x` that cannot run past it — what follows is not a byte, or no
    more than `x` is asked for — returns a non-empty piece of `x` -/
theorem read_piece {r : BufR} {x : Bytes} {rest : List Item} (hok : r.Ok) (hx : x ≠ [])
    (hfl : r.flat = bytesI x ++ rest) (n : Nat) (hle : NoByte rest ∨ n ≤ x.length) :
    ∃ bs x', (r.read n).1 = .ok bs ∧ (0 < n → bs ≠ []) ∧ bs.length ≤ n ∧ x = bs ++ x' ∧
      (r.read n).2.Ok ∧ (r.read n).2.flat = bytesI x' ++ rest := by
  obtain ⟨c, x0, rfl⟩ := List.exists_cons_of_ne_nil hx
  obtain ⟨hok', hm⟩ := read_any_spec r n hok
  rw [flat_cons_of hfl] at hm
  obtain ⟨bs, hb0, hb1, hb2, hb4⟩ := hm
  have hb4' : bytesI bs ++ (r.read n).2.flat = bytesI (c :: x0) ++ rest := hb4
  obtain ⟨hs1, hs2⟩ := bytesI_split bs (c :: x0) _ _ hb4'
    (hle.elim (bytesI_le_of_noByte bs _ _ _ hb4') (Nat.le_trans hb2))
  exact ⟨bs, _, hb0, hb1, hb2, hs1, hok', hs2⟩

/-- while `x` is not exhausted a read hands out a non-empty piece of it and nothing else -/
theorem Exact.read {b : Body} {x : Bytes} {d : Option Nat} {rest : List Item} (h : Exact b x d rest)
    (hx : x ≠ []) (m n : Nat) :
    ∃ bs x', (b.read m n).1 = .ok bs ∧ (0 < n → bs ≠ []) ∧ bs.length ≤ n ∧ x = bs ++ x' ∧
      Exact (b.read m n).2 x' d rest := by
  match b, d, h with
  | .length r lim, some k, ⟨hok, hlim, hfl, hnb⟩ =>
    have hl : 0 < x.length := List.length_pos_iff.2 hx
    obtain ⟨bs, x', h0, h1, h2, h3, hok', hf'⟩ := read_piece hok hx hfl (min n lim)
      (k.eq_zero_or_pos.elim (fun hk => .inr (by omega)) (fun hk => .inl (hnb hk)))
    have he : eofRes n (.ok bs) = .ok bs := if_neg fun ⟨hb, hn⟩ => h1 (by omega) hb
    have hlen : x.length = bs.length + x'.length := by rw [h3, List.length_append]
    rw [length_read_eq r lim m n (by omega), h0, he]
    exact ⟨bs, x', rfl, fun hn => h1 (by omega), by omega, h3, hok', by rw [RR.got]; omega, hf',
      hnb⟩
  | .close r, none, ⟨hok, hfl, hnb⟩ =>
    obtain ⟨bs, x', h0, h1, h2, h3, hok', hf'⟩ := read_piece hok hx hfl n (.inl hnb)
    rw [close_read_eq]
    exact ⟨bs, x', h0, h1, h2, h3, hok', hf', hnb⟩

/-- what a read returns once `x` is exhausted: `Ok(0)` without touching the connection if the
    announced length is reached, else what the `BufReader` returns where the stream does not go on
    with a byte (`stopRes`), through `Take`'s check if a length is announced -/
def endEv : Option Nat → Nat → List Item → Ev
  | some 0, _, _ => .ok []
  | some _, n, rest => Ev.ofRR (eofRes n (stopRes rest))
  | none, _, rest => Ev.ofRR (stopRes rest)

theorem endEv_bytes (d : Option Nat) (n : Nat) (rest : List Item) : (endEv d n rest).bytes = [] := by
  have hs : (Ev.ofRR (stopRes rest)).bytes = [] := by unfold stopRes; split <;> rfl
  unfold endEv
  split
  · rfl
  · exact (eofRes_spec n _).1.trans hs
  · exact hs

/-- reading at the end does not move the stream: no error item is consumed -/
def Stable (d : Option Nat) (rest : List Item) : Prop := d = some 0 ∨ ∀ k r, rest ≠ .err k :: r

/-- … and then the copy loops stop: the end is `Ok(0)`, `UnexpectedEof` or a stall -/
theorem Stable.endEv {d : Option Nat} {rest : List Item} (hs : Stable d rest) {n : Nat}
    (hn : 0 < n) :
    endEv d n rest = .ok [] ∨ endEv d n rest = .err .eof ∨ endEv d n rest = .blocked := by
  rcases hs with rfl | hs
  · exact .inl rfl
  · have hst : stopRes rest = .ok [] ∨ stopRes rest = .blocked := by
      unfold stopRes
      split
      · next k F => exact absurd rfl (hs k F)
      · exact .inr rfl
      · exact .inl rfl
    unfold _root_.Atto.endEv
    split
    · exact .inl rfl
    · rcases hst with h | h <;> rw [h]
      · exact .inr (.inl (by rw [eofRes, if_pos ⟨rfl, Nat.ne_of_gt hn⟩]; rfl))
      · exact .inr (.inr rfl)
    · rcases hst with h | h <;> rw [h]
      · exact .inl rfl
      · exact .inr (.inr rfl)

theorem Exact.read_end {b : Body} {d : Option Nat} {rest : List Item} (h : Exact b [] d rest)
    (m n : Nat) :
    Ev.ofRR (b.read m n).1 = endEv d n rest ∧ (Stable d rest → Exact (b.read m n).2 [] d rest) := by
  match b, d, h with
  | .length r lim, some k, ⟨hok, hlim, hfl, hnb⟩ =>
    have hlim' : lim = k := by rw [hlim]; exact Nat.zero_add k
    subst hlim'
    have hfl' : r.flat = rest := hfl
    cases lim with
    | zero =>
      rw [length_read_zero]
      exact ⟨rfl, fun _ => ⟨hok, rfl, hfl, hnb⟩⟩
    | succ k =>
      obtain ⟨h1, hok', h2⟩ := read_stop r (min n (k + 1)) hok (hfl' ▸ hnb (Nat.succ_pos _))
      rw [length_read_eq r _ m n (Nat.succ_pos _), h1, hfl']
      refine ⟨rfl, fun hs => ⟨hok', by rw [stopRes_got]; exact (Nat.zero_add _).symm, ?_, hnb⟩⟩
      exact (h2 (hfl' ▸ hs.resolve_left nofun)).trans hfl
  | .close r, none, ⟨hok, hfl, hnb⟩ =>
    have hfl' : r.flat = rest := hfl
    obtain ⟨h1, hok', h2⟩ := read_stop r n hok (hfl' ▸ hnb)
    rw [close_read_eq, h1, hfl']
    exact ⟨rfl, fun hs => ⟨hok', (h2 (hfl' ▸ hs.resolve_left nofun)).trans hfl, hnb⟩⟩

/-- the contract of a read on `Exact`: a non-empty piece while `rem` is left, then `endEv` -/
def QExact (d : Option Nat) (rest : List Item) (n : Nat) (rem : Bytes) (e : Ev) : Prop :=
  (rem ≠ [] → ∃ bs, e = .ok bs ∧ (0 < n → bs ≠ []) ∧ bs.length ≤ n) ∧
  (rem = [] → e = endEv d n rest)

theorem exact_while (m : Nat) (d : Option Nat) (rest : List Item) :
    TracksWhile (readStep m) Ev.bytes (fun _ _ => True) (fun b x => Exact b x d rest)
      (QExact d rest) := by
  intro b x n h hx _
  obtain ⟨bs, x', h1, h2, h3, h4, h5⟩ := h.read hx m n
  simp only [readStep, h1]
  exact ⟨⟨fun _ => ⟨bs, rfl, h2, h3⟩, fun h0 => absurd h0 hx⟩, x', h5, h4⟩

theorem exact_step (m : Nat) (d : Option Nat) (rest : List Item) (hs : Stable d rest) :
    ReadTracks m (fun b x => Exact b x d rest) (QExact d rest) := by
  intro b x n h _
  by_cases hx : x = []
  · subst hx
    obtain ⟨h1, h2⟩ := h.read_end m n
    simp only [readStep, h1]
    exact ⟨⟨fun h0 => absurd rfl h0, fun _ => rfl⟩, [], h2 hs, by rw [endEv_bytes]; rfl⟩
  · exact exact_while m d rest b x n h hx trivial

/-- `fuel` reads of a positive size on `Exact`: pieces of `x`, then `endEv`, whatever the stream
    does after that read -/
theorem Exact.shape {b : Body} {x : Bytes} {d : Option Nat} {rest : List Item}
    (h : Exact b x d rest) (m : Nat) {sz : Nat} (hsz : 0 < sz) {fuel : Nat}
    (hf : x.length < fuel) : Shape x (endEv d sz rest) (reads m (List.replicate fuel sz) b).1 := by
  rw [reads_eq_runG]
  refine shape_of_steps (readStep m) sz (fun b x => Exact b x d rest) _ (fun b rem hi h0 => ?_)
    (fun b hi => (hi.read_end m sz).1) fuel b x h hf
  obtain ⟨bs, x', h1, h2, _, h4, h5⟩ := hi.read h0 m sz
  exact ⟨bs, x', congrArg Ev.ofRR h1, h2 hsz, h4, h5⟩

/-- `x` is in the stream -/
theorem Exact.length_le {b : Body} {x : Bytes} {d : Option Nat} {rest : List Item}
    (h : Exact b x d rest) : x.length ≤ b.inner.flat.length := by
  match b, d, h with
  | .length r lim, some k, ⟨_, _, hfl, _⟩ =>
    simp only [Body.inner, hfl, List.length_append, bytesI_length]; omega
  | .close r, none, ⟨_, hfl, _⟩ =>
    simp only [Body.inner, hfl, List.length_append, bytesI_length]; omega

/-! ## Complete bodies (C01): the frame ends where the payload ends -/

def QClean (n : Nat) (rem : Bytes) (e : Ev) : Prop :=
  ∃ bs, e = .ok bs ∧ (0 < n → (bs = [] ↔ rem = []))

theorem QClean.shape {n : Nat} (hn : 0 < n) (rem : Bytes) (e : Ev) (h : QClean n rem e) :
    (rem = [] → e = .ok []) ∧ (rem ≠ [] → ∃ bs, e = .ok bs ∧ bs ≠ []) := by
  obtain ⟨bs, rfl, hq⟩ := h
  exact ⟨fun hr => by rw [(hq hn).2 hr], fun hr => ⟨bs, rfl, fun hb => hr ((hq hn).1 hb)⟩⟩

/-- the announced length ends with `x`, or the stream does -/
def EndsClean (d : Option Nat) (rest : List Item) : Prop := d = some 0 ∨ (d = none ∧ rest = [])

theorem EndsClean.endEv {d : Option Nat} {rest : List Item} (h : EndsClean d rest) (n : Nat) :
    endEv d n rest = .ok [] := by
  rcases h with rfl | ⟨rfl, rfl⟩ <;> rfl

theorem EndsClean.stable {d : Option Nat} {rest : List Item} (h : EndsClean d rest) :
    Stable d rest := by
  rcases h with rfl | ⟨rfl, rfl⟩
  · exact .inl rfl
  · exact .inr fun k r h => by cases h

theorem QExact.clean {d : Option Nat} {rest : List Item} (hc : EndsClean d rest) {n : Nat}
    {rem : Bytes} {e : Ev} (h : QExact d rest n rem e) : QClean n rem e := by
  by_cases hr : rem = []
  · exact ⟨[], by rw [h.2 hr, hc.endEv], fun _ => ⟨fun _ => hr, fun _ => rfl⟩⟩
  · obtain ⟨bs, rfl, hb, _⟩ := h.1 hr
    exact ⟨bs, rfl, fun hn => ⟨fun h => absurd h (hb hn), fun h => absurd h hr⟩⟩

theorem clean_step (m : Nat) (d : Option Nat) (rest : List Item) (hc : EndsClean d rest) :
    ReadTracks m (fun b x => Exact b x d rest) QClean :=
  (exact_step m d rest hc.stable).mono fun _ _ _ h => h.clean hc

/-- C01 at the level of `Body`, for any invariant whose reads obey `QClean`. -/
theorem clean_run {m : Nat} {Inv : Body → Bytes → Prop} (h : ReadTracks m Inv QClean)
    (ns : List Nat) {b : Body} {rem : Bytes} (hi : Inv b rem) :
    let evs := (reads m ns b).1
    (∀ e ∈ evs, e.isOk) ∧ deliveredEv evs <+: rem ∧
    (∀ i (hi : i < ns.length), 0 < ns[i] → evs[i]? = some (.ok []) →
        deliveredEv (evs.take i) = rem) ∧
    (∀ i (hi : i < ns.length), 0 < ns[i] → deliveredEv (evs.take i) = rem →
        evs[i]? = some (.ok [])) ∧
    (∀ i (hi : i < ns.length), 0 < ns[i] → (deliveredEv (evs.take i)).length < rem.length →
        ∃ bs, evs[i]? = some (.ok bs) ∧ bs ≠ []) := by
  intro evs
  have hlen := reads_length m ns b
  obtain ⟨h1, h2⟩ := h.get_reads ns hi
  refine ⟨?_, h1, ?_, ?_, ?_⟩
  · exact forall_mem_of_getElem? hlen fun i hi =>
      (h2 i hi).imp fun e' ⟨he', _, bs, hb, _⟩ => ⟨he', hb ▸ rfl⟩
  · intro i hi hn hev
    obtain ⟨e', he', hp, bs, rfl, hq⟩ := h2 i hi
    rw [hev] at he'
    cases he'
    exact (prefix_drop_nil_iff hp).1 ((hq hn).1 rfl)
  · intro i hi hn hd
    obtain ⟨e', he', hp, bs, rfl, hq⟩ := h2 i hi
    rw [he', (hq hn).2 ((prefix_drop_nil_iff hp).2 hd)]
  · intro i hi hn hlt
    obtain ⟨e', he', hp, bs, rfl, hq⟩ := h2 i hi
    refine ⟨bs, he', fun hb => ?_⟩
    exact (prefix_length_lt_iff hp).1 hlt ((hq hn).1 hb)

/-! ## `Content-Length` bodies closed early (C02): the stream ends after `rem`, more is announced -/

/-- the read contract when more is announced than the stream holds: never a panic, never `Ok(0)` into
    a non-empty buffer; `UnexpectedEof` once `rem` is exhausted, data before -/
def QCut (n : Nat) (rem : Bytes) (e : Ev) : Prop :=
  e ≠ .panic ∧ (0 < n → e ≠ .ok []) ∧ (0 < n → rem = [] → e = .err .eof) ∧
  (rem ≠ [] → ∃ bs, e = .ok bs)

/-- more is announced and the stream has ended: `UnexpectedEof` -/
theorem endEv_cut {k n : Nat} (hk : 0 < k) (hn : 0 < n) : endEv (some k) n [] = .err .eof := by
  obtain ⟨k, rfl⟩ : ∃ j, k = j + 1 := ⟨k - 1, by omega⟩
  simp [endEv, stopRes, eofRes, Nat.ne_of_gt hn, Ev.ofRR]

theorem QExact.cut {k n : Nat} (hk : 0 < k) {rem : Bytes} {e : Ev}
    (h : QExact (some k) [] n rem e) : QCut n rem e := by
  by_cases hr : rem = []
  · rw [h.2 hr]
    refine ⟨?_, fun hn => by rw [endEv_cut hk hn]; nofun, fun hn _ => endEv_cut hk hn,
      fun h0 => absurd hr h0⟩
    cases n with
    | zero => cases k <;> nofun
    | succ n => rw [endEv_cut hk (Nat.succ_pos n)]; nofun
  · obtain ⟨bs, rfl, hb, _⟩ := h.1 hr
    exact ⟨nofun, fun hn hc => hb hn (Ev.ok.inj hc), fun _ h0 => absurd h0 hr, fun _ => ⟨bs, rfl⟩⟩

theorem cut_step (m : Nat) {k : Nat} (hk : 0 < k) :
    ReadTracks m (fun b x => Exact b x (some k) []) QCut :=
  (exact_step m _ _ (.inr fun _ _ h => by cases h)).mono fun _ _ _ h => h.cut hk

/-- C02 for a `Content-Length` body closed early, at the level of `Body`. -/
theorem cut_run (m : Nat) (ns : List Nat) {b : Body} {rem : Bytes} {k : Nat}
    (h : Exact b rem (some k) []) (hk : 0 < k) :
    let evs := (reads m ns b).1
    (∀ i (hi : i < ns.length), 0 < ns[i] → evs[i]? ≠ some (.ok [])) ∧
    deliveredEv evs <+: rem ∧
    (∀ e ∈ evs, e ≠ .panic) ∧
    (∀ i (hi : i < ns.length), 0 < ns[i] → deliveredEv (evs.take i) = rem →
        evs[i]? = some (.err .eof)) ∧
    (∀ i, i < ns.length → (deliveredEv (evs.take i)).length < rem.length →
        ∃ bs, evs[i]? = some (.ok bs)) := by
  intro evs
  have hlen := reads_length m ns b
  obtain ⟨h1, h2⟩ := (cut_step m hk).get_reads ns h
  refine ⟨?_, h1, ?_, ?_, ?_⟩
  · intro i hi hn hev
    obtain ⟨e', he', _, _, hq, _⟩ := h2 i hi
    rw [hev] at he'
    cases he'
    exact hq hn rfl
  · exact forall_mem_of_getElem? hlen fun i hi => (h2 i hi).imp fun e' h => ⟨h.1, h.2.2.1⟩
  · intro i hi hn hd
    obtain ⟨e', he', hp, _, _, hq, _⟩ := h2 i hi
    rw [he', hq hn ((prefix_drop_nil_iff hp).2 hd)]
  · intro i hi hlt
    obtain ⟨e', he', hp, _, _, _, hq⟩ := h2 i hi
    obtain ⟨bs, rfl⟩ := hq ((prefix_length_lt_iff hp).1 hlt)
    exact ⟨bs, he'⟩

/-! ## Arbitrary streams (C02, I/O errors): nothing lost, duplicated or invented -/

def AnyLC (b : Body) (rem : Bytes) : Prop :=
  match b with
  | .chunked _ => False
  | .length r _ => r.Ok ∧ rem = bytesOf r.flat
  | .close r => r.Ok ∧ rem = bytesOf r.flat

/-- a `BufReader::read` loses no byte of the stream: what it returns, then what is still ahead -/
theorem read_bytesOf (r : BufR) (n : Nat) (h : r.Ok) :
    Ev.ofRR (r.read n).1 ≠ .panic ∧ (r.read n).2.Ok ∧
    bytesOf r.flat = (Ev.ofRR (r.read n).1).bytes ++ bytesOf (r.read n).2.flat := by
  obtain ⟨hok', hm⟩ := read_any_spec r n h
  rcases hfl : r.flat with _ | ⟨(b | k | _), rest⟩ <;> rw [hfl] at hm <;> simp only at hm
  · rw [hm.1, hm.2]; exact ⟨nofun, hok', rfl⟩
  · obtain ⟨bs, h1, _, _, h4⟩ := hm
    rw [h1, ← h4, bytesOf_bytesI_append]; exact ⟨nofun, hok', rfl⟩
  · rw [hm.1, hm.2]; exact ⟨nofun, hok', rfl⟩
  · rw [hm.1, hm.2]; exact ⟨nofun, hok', rfl⟩

theorem any_step (m : Nat) : ReadTracks m AnyLC (fun _ _ e => e ≠ .panic) := by
  intro b rem n h _
  dsimp only [readStep]
  cases b with
  | chunked c => exact h.elim
  | length r lim =>
    obtain ⟨hok, rfl⟩ := h
    by_cases hl : lim = 0
    · subst hl
      rw [length_read_zero]
      exact ⟨nofun, _, ⟨hok, rfl⟩, rfl⟩
    · obtain ⟨hnp, hok', hb⟩ := read_bytesOf r (min n lim) hok
      obtain ⟨he1, he2⟩ := eofRes_spec n (r.read (min n lim)).1
      rw [length_read_eq r lim m n (by omega)]
      exact ⟨he2 hnp, _, ⟨hok', rfl⟩, by rw [he1]; exact hb⟩
  | close r =>
    obtain ⟨hok, rfl⟩ := h
    obtain ⟨hnp, hok', hb⟩ := read_bytesOf r n hok
    rw [close_read_eq]
    exact ⟨hnp, _, ⟨hok', rfl⟩, hb⟩

/-- On ANY stream (errors, stalls, early EOF anywhere), after any number of reads of a
    `Content-Length` or close-delimited body, the bytes handed out so far are a prefix of the bytes of
    the stream, and nothing panics. -/
theorem any_run (m : Nat) (ns : List Nat) (b : Body) (rem : Bytes) (h : AnyLC b rem) :
    let evs := (reads m ns b).1
    (∀ i, deliveredEv (evs.take i) <+: rem) ∧ (∀ e ∈ evs, e ≠ .panic) := by
  intro evs
  have hlen := reads_length m ns b
  obtain ⟨h1, h2⟩ := (any_step m).get_reads ns h
  exact ⟨fun i => (deliveredEv_take_prefix evs i).trans h1,
    forall_mem_of_getElem? hlen fun i hi => (h2 i hi).imp fun e' h => ⟨h.1, h.2.2⟩⟩

/-! ## Arrived bytes (C19): `x` has arrived, what follows is arbitrary -/

/-- `x` has arrived within the announced length, anything may follow: `Exact` holds for `x` extended
    by the bytes that follow it, up to the announced length -/
theorem Exact.of_arrived_length {r : BufR} {lim : Nat} {x : Bytes} {rest : List Item} (hok : r.Ok)
    (hlim : x.length ≤ lim) (hfl : r.flat = bytesI x ++ rest) :
    ∃ y k rest', Exact (.length r lim) (x ++ y) (some k) rest' := by
  obtain ⟨y, rest', hr, hn⟩ := exists_leading rest
  by_cases hy : x.length + y.length ≤ lim
  · exact ⟨y, lim - (x.length + y.length), rest', hok, by rw [List.length_append]; omega,
      by rw [hfl, hr, bytesI_append, List.append_assoc], fun _ => hn⟩
  · refine ⟨y.take (lim - x.length), 0, bytesI (y.drop (lim - x.length)) ++ rest', hok, ?_, ?_,
      fun h => absurd h (Nat.lt_irrefl 0)⟩
    · rw [List.length_append, List.length_take]; omega
    · rw [hfl, hr, bytesI_append, List.append_assoc, ← List.append_assoc (bytesI (y.take _)),
        ← bytesI_append, List.take_append_drop]

theorem Exact.of_arrived_close {r : BufR} {x : Bytes} {rest : List Item} (hok : r.Ok)
    (hfl : r.flat = bytesI x ++ rest) : ∃ y rest', Exact (.close r) (x ++ y) none rest' := by
  obtain ⟨y, rest', hr, hn⟩ := exists_leading rest
  exact ⟨y, rest', hok, by rw [hfl, hr, bytesI_append, List.append_assoc], hn⟩

/-- C19 for `Content-Length` and close-delimited bodies at the level of `Body`: while fewer than the
    arrived bytes were delivered, a read with a non-empty buffer returns a non-empty `Ok`. -/
theorem arrived_run (m : Nat) (ns : List Nat) {b : Body} {x y : Bytes} {d : Option Nat}
    {rest : List Item} (h : Exact b (x ++ y) d rest) :
    ∀ i (hi : i < ns.length), (deliveredEv ((reads m ns b).1.take i)).length < x.length →
      (ns[i] = 0 → (reads m ns b).1[i]? = some (.ok [])) ∧
      (0 < ns[i] → ∃ bs, (reads m ns b).1[i]? = some (.ok bs) ∧ bs ≠ [] ∧ bs.length ≤ ns[i]) := by
  intro i hi hlt
  obtain ⟨e, he, hp, hq, _⟩ := (exact_while m d rest).get_reads ns h i hi
    (by rw [List.length_append]; omega)
  obtain ⟨bs, rfl, hne, hle⟩ := hq ((prefix_length_lt_iff hp).1 (by rw [List.length_append]; omega))
  refine ⟨fun hn => ?_, fun hn => ⟨bs, he, hne hn, hle⟩⟩
  rw [he, List.eq_nil_of_length_eq_zero (by omega : bs.length = 0)]

end Atto
