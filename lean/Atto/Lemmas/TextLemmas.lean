/-
  Atto/Lemmas/TextLemmas.lean — helper lemmas for property C18: the `charset=` label extraction and
  the reference decoders of Atto/Spec/TextSpec.lean (streaming = whole).
-/
import Atto.Model.Charset
import Atto.Spec.TextSpec
import Atto.Lemmas.Str
import Atto.Lemmas.ListFacts
namespace Atto

/-! ### constants -/

theorem tx_str_charset : str "charset=" = [99, 104, 97, 114, 115, 101, 116, 61] := by decide +kernel

/-! ### `Headers` -/

theorem Headers.get_singleton (k v : Bytes) : Headers.get [(k, v)] k = some v := by
  simp [Headers.get, Headers.getAll]

/-! ### `charsetLabel` -/

/-- everything after the FIRST `;` is what the label is taken from -/
theorem tx_charsetLabel_split (ty rest : Bytes) (hty : (59 : UInt8) ∉ ty) :
    charsetLabel (ty ++ 59 :: rest) =
      if isPrefixOfB (str "charset=") (trimByte 32 rest) then some ((trimByte 32 rest).drop 8)
      else none := by
  unfold charsetLabel
  rw [idxOf?_append_cons 59 rest ty hty]
  simp only [drop_length_succ]

theorem tx_trim_param (k : Nat) (l : Bytes) (hl : l.getLast? ≠ some 32) :
    trimByte 32 (List.replicate k 32 ++ str "charset=" ++ l) = str "charset=" ++ l := by
  have h := trimByte_padded 32 k 0 (str "charset=" ++ l) (by rw [tx_str_charset]; simp) (by
    rw [List.getLast?_append]
    cases hq : l.getLast? with
    | some x => rw [hq] at hl; simpa using hl
    | none => rw [tx_str_charset]; simp)
  simpa [List.append_assoc] using h

/-! ### the UTF-8 automaton -/

theorem tx_utf8Run_append (a b : Bytes) : ∀ s : U8State,
    utf8Run s (a ++ b) =
      ((utf8Run (utf8Run s a).1 b).1, (utf8Run s a).2 ++ (utf8Run (utf8Run s a).1 b).2) := by
  induction a with
  | nil => intro s; simp [utf8Run]
  | cons x xs ih =>
    intro s
    simp only [List.cons_append, utf8Run, ih, List.append_assoc]

theorem tx_utf8RunChunks (chunks : List Bytes) : ∀ s : U8State,
    utf8RunChunks s chunks = utf8Run s chunks.flatten := by
  induction chunks with
  | nil => intro s; rfl
  | cons c cs ih =>
    intro s
    rw [List.flatten_cons, tx_utf8Run_append, utf8RunChunks, ih]

theorem tx_decodeUtf8Chunks (chunks : List Bytes) :
    decodeUtf8Chunks chunks = decodeUtf8 chunks.flatten := by
  unfold decodeUtf8Chunks decodeUtf8
  rw [tx_utf8RunChunks]

/-! The characters owed for a pending sequence are those `utf8Finish` would emit: none or one. -/

theorem utf8Finish_init : utf8Finish .init = [] := rfl

/-- after a first byte one character is out or one is owed
    (`split` on the nested `if` of `utf8Start` is slow to check, hence `by_cases`) -/
theorem tx_utf8Start_count (b : UInt8) :
    (utf8Start b).2.length + (utf8Finish (utf8Start b).1).length = 1 := by
  unfold utf8Start
  by_cases h1 : b ≤ 0x7F
  · rw [if_pos h1]; rfl
  · rw [if_neg h1]
    by_cases h2 : 0xC2 ≤ b ∧ b ≤ 0xDF
    · rw [if_pos h2]; rfl
    · rw [if_neg h2]
      by_cases h3 : 0xE0 ≤ b ∧ b ≤ 0xEF
      · rw [if_pos h3]; rfl
      · rw [if_neg h3]
        by_cases h4 : 0xF0 ≤ b ∧ b ≤ 0xF4
        · rw [if_pos h4]; rfl
        · rw [if_neg h4]; rfl

theorem tx_utf8Step_count (s : U8State) (b : UInt8) :
    (utf8Step s b).2.length + (utf8Finish (utf8Step s b).1).length ≤ (utf8Finish s).length + 1 ∧
    1 ≤ (utf8Step s b).2.length + (utf8Finish (utf8Step s b).1).length := by
  have hb := tx_utf8Start_count b
  unfold utf8Step
  by_cases h0 : s.needed = 0
  · rw [if_pos h0]; omega
  · have hs : (utf8Finish s).length = 1 := by simp [utf8Finish, h0]
    rw [if_neg h0, hs]
    split
    · by_cases h1 : s.needed = 1
      · simp [h1, utf8Finish]
      · have : s.needed - 1 ≠ 0 := by omega
        simp [h1, utf8Finish, this]
    · simp only [List.length_cons]; omega

theorem tx_utf8Run_count (bs : Bytes) : ∀ s : U8State,
    (utf8Run s bs).2.length + (utf8Finish (utf8Run s bs).1).length ≤ (utf8Finish s).length + bs.length ∧
    (utf8Finish s).length ≤ (utf8Run s bs).2.length + (utf8Finish (utf8Run s bs).1).length ∧
    (bs ≠ [] → 1 ≤ (utf8Run s bs).2.length + (utf8Finish (utf8Run s bs).1).length) := by
  induction bs with
  | nil => intro s; simp [utf8Run]
  | cons x xs ih =>
    intro s
    have h0 : (utf8Finish s).length ≤ 1 := by unfold utf8Finish; split <;> simp
    have h1 := tx_utf8Step_count s x
    have h2 := ih (utf8Step s x).1
    simp only [utf8Run, List.length_append, List.length_cons]
    refine ⟨by omega, by omega, fun _ => by omega⟩

/-- pure ASCII goes through unchanged and leaves no pending state -/
theorem tx_utf8Run_ascii (bs : Bytes) (h : ∀ b ∈ bs, b ≤ 0x7F) :
    utf8Run .init bs = (.init, bs.map (fun b => Char.ofNat b.toNat)) := by
  induction bs with
  | nil => rfl
  | cons x xs ih =>
    have hx : x ≤ 0x7F := h x (by simp)
    have e : utf8Step .init x = (.init, [Char.ofNat x.toNat]) := by
      simp [utf8Step, U8State.init, utf8Start, hx]
    simp only [utf8Run, e, ih (fun b hb => h b (by simp [hb]))]
    rfl

end Atto
