/-
  Atto/Lemmas/RedirectExamples.lean — concrete scenarios used by the non-vacuity examples of
  properties C09 / C10 (redirect chains, a redirect cycle, a proxy that applies to one host only), and
  what the model computes on the chain a → b → c, evaluated once for all of them.
-/
import Atto.Lemmas.Redirect
import Atto.Lemmas.Str
namespace Atto
namespace RdEx
open Atto.Rd

deriving instance DecidableEq for RR
deriving instance DecidableEq for Final
deriving instance DecidableEq for HopOut
deriving instance DecidableEq for HopRes

/-- `http://host path` with the default port. -/
def rx_url (host path : String) : Url :=
  { scheme := str "http", user := [], pass := none, host := str host, hostKind := 0, port := none,
    effPort := 80, path := str path, query := none, fragment := none }

/-- A redirect response with the given status line and `Location` (two transport segments). -/
def rx_redirect (statusLine loc : String) : Transport :=
  [.data (str ("HTTP/1.1 " ++ statusLine ++ "\r\nLocation: " ++ loc ++ "\r\n")),
   .data (str "Content-Length: 0\r\n\r\n")]

/-- A redirect status without `Location`. -/
def rx_noLocation : Transport := [.data (str "HTTP/1.1 301 Moved\r\nContent-Length: 0\r\n\r\n")]

def rx_ok : Transport := [.data (str "HTTP/1.1 200 OK\r\nContent-Length: 2\r\n\r\nhi")]

/-- 304 is a 3xx that is not followed. -/
def rx_notModified : Transport := [.data (str "HTTP/1.1 304 Not Modified\r\n\r\n")]

def rx_body : BodyM := { kind := .known 3, writes := [str "a", str "bc"] }

/-- A prepared POST with a rewindable 3-byte body. -/
def rx_req : Req :=
  { method := str "POST", methodM := .post,
    headers := [(str "accept", str "*/*"), (str "x-caller", str "1"), (str "content-length", str "3")],
    body := rx_body, bodyRewindable := true }

/-- The same with a one-shot (multipart-like) body. -/
def rx_reqOneShot : Req := { rx_req with bodyRewindable := false }

def rx_noProxy : ProxySettings := { httpProxy := none, httpsProxy := none, disabled := false, noProxy := [] }

def rx_settings (follow : Bool) (max : Nat) : SendSettings :=
  { followRedirects := follow, maxRedirections := max, maxHeaders := 100, proxy := rx_noProxy }

def rx_proxyUrl : Url := { rx_url "proxy" "/" with port := some 3128, effPort := 3128 }

/-- A proxy for plain http, except for host `b`. -/
def rx_settingsProxy : SendSettings :=
  { followRedirects := true, maxRedirections := 5, maxHeaders := 100,
    proxy := { httpProxy := some rx_proxyUrl, httpsProxy := none, disabled := false, noProxy := [str "b"] } }

def rx_a : Url := rx_url "a" "/1"
def rx_b : Url := rx_url "b" "/2"
def rx_c : Url := rx_url "c" "/3"

/-- a → b → c → 200 -/
def rx_chain : List Hop :=
  [{ script := rx_redirect "302 Found" "http://b/2", resolved := some rx_b },
   { script := rx_redirect "307 Temporary Redirect" "http://c/3", resolved := some rx_c },
   { script := rx_ok, resolved := none }]

/-- a → b → a → b → … (`k` hops of a two-element cycle) -/
def rx_cycle : Nat → List Hop
  | 0 => []
  | k + 1 =>
    { script := rx_redirect "301 Moved" "http://b/2", resolved := some rx_b } ::
    { script := rx_redirect "308 Permanent Redirect" "http://a/1", resolved := some rx_a } :: rx_cycle k

/-- For the examples: a successful parse, presented through its status and header map. -/
theorem rx_parse {m : Method} {mh cap : Nat} {t : Transport} {st : Nat} {hs : Headers} :
    (parseResponse m mh cap t).map (fun r => (r.status, r.headers)) = .ok (st, hs) →
    ∃ resp, parseResponse m mh cap t = .ok resp ∧ resp.status = st ∧ resp.headers = hs := by
  intro h
  cases hp : parseResponse m mh cap t with
  | ok resp =>
    rw [hp] at h
    simp only [RR.map_ok, RR.ok.injEq, Prod.mk.injEq] at h
    exact ⟨resp, rfl, h.1, h.2⟩
  | err e => rw [hp] at h; cases h
  | blocked => rw [hp] at h; cases h
  | panic => rw [hp] at h; cases h

/-- without proxy settings no URL gets a proxy, so no hop is tunnelled -/
theorem rx_no_proxy (follow : Bool) (max : Nat) (u : Url) : (rx_settings follow max).proxy.forUrl u = none := by
  simp [rx_settings, rx_noProxy, ProxySettings.forUrl]

theorem rx_no_tunnel (follow : Bool) (max : Nat) (u : Url) : rd_tunnels (rx_settings follow max) u = false :=
  rd_tunnels_none (rx_no_proxy follow max u)

/-! ### the runs on the chain a → b → c

Each is evaluated once: the observations and outcome of `send`, and the URLs visited. The byte strings
are written as the examples write them, so that an example about one field follows by `rfl` without
evaluating a literal again. The definitions that hold the scenario's long literals are unfolded first,
so that `str_data` reaches them. -/

/-- no proxy, rewindable body -/
theorem rx_run_chain :
    send (rx_settings true 5) rx_req 64 rx_a rx_chain = ([
      { dialScheme := str "http", dialHost := str "a", dialPort := 80, tlsName := none,
        wrote := str "POST /1 HTTP/1.1\r\naccept: */*\r\nx-caller: 1\r\ncontent-length: 3\r\nhost: a\r\n\r\nabc" },
      { dialScheme := str "http", dialHost := str "b", dialPort := 80, tlsName := none,
        wrote := str "POST /2 HTTP/1.1\r\naccept: */*\r\nx-caller: 1\r\ncontent-length: 3\r\nhost: b\r\n\r\nabc" },
      { dialScheme := str "http", dialHost := str "c", dialPort := 80, tlsName := none,
        wrote := str "POST /3 HTTP/1.1\r\naccept: */*\r\nx-caller: 1\r\ncontent-length: 3\r\nhost: c\r\n\r\nabc" }],
     .ok 200 rx_c) ∧
    urlsVisited (rx_settings true 5) rx_req 64 rx_a rx_chain = [rx_a, rx_b, rx_c] := by
  repeat rw [str_ofList]
  simp only [rx_chain, rx_redirect, rx_ok, rx_req, rx_body, str_data]
  decide +kernel

/-- the proxy that applies to `a` and `c` only -/
theorem rx_run_chainProxy :
    send rx_settingsProxy rx_req 64 rx_a rx_chain = ([
      { dialScheme := str "http", dialHost := str "proxy", dialPort := 3128, tlsName := none,
        wrote := str "POST http://a/1 HTTP/1.1\r\naccept: */*\r\nx-caller: 1\r\ncontent-length: 3\r\nhost: proxy:3128\r\n\r\nabc" },
      { dialScheme := str "http", dialHost := str "b", dialPort := 80, tlsName := none,
        wrote := str "POST /2 HTTP/1.1\r\naccept: */*\r\nx-caller: 1\r\ncontent-length: 3\r\nhost: b\r\n\r\nabc" },
      { dialScheme := str "http", dialHost := str "proxy", dialPort := 3128, tlsName := none,
        wrote := str "POST http://c/3 HTTP/1.1\r\naccept: */*\r\nx-caller: 1\r\ncontent-length: 3\r\nhost: proxy:3128\r\n\r\nabc" }],
     .ok 200 rx_c) ∧
    urlsVisited rx_settingsProxy rx_req 64 rx_a rx_chain = [rx_a, rx_b, rx_c] := by
  repeat rw [str_ofList]
  simp only [rx_chain, rx_redirect, rx_ok, rx_req, rx_body, str_data]
  decide +kernel

/-- no proxy, one-shot body: hops 1 and 2 announce three bytes and carry none -/
theorem rx_run_chainOneShot :
    send (rx_settings true 5) rx_reqOneShot 64 rx_a rx_chain = ([
      { dialScheme := str "http", dialHost := str "a", dialPort := 80, tlsName := none,
        wrote := str "POST /1 HTTP/1.1\r\naccept: */*\r\nx-caller: 1\r\ncontent-length: 3\r\nhost: a\r\n\r\nabc" },
      { dialScheme := str "http", dialHost := str "b", dialPort := 80, tlsName := none,
        wrote := str "POST /2 HTTP/1.1\r\naccept: */*\r\nx-caller: 1\r\ncontent-length: 3\r\nhost: b\r\n\r\n" },
      { dialScheme := str "http", dialHost := str "c", dialPort := 80, tlsName := none,
        wrote := str "POST /3 HTTP/1.1\r\naccept: */*\r\nx-caller: 1\r\ncontent-length: 3\r\nhost: c\r\n\r\n" }],
     .ok 200 rx_c) ∧
    urlsVisited (rx_settings true 5) rx_reqOneShot 64 rx_a rx_chain = [rx_a, rx_b, rx_c] := by
  repeat rw [str_ofList]
  simp only [rx_reqOneShot, rx_chain, rx_redirect, rx_ok, rx_req, rx_body, str_data]
  decide +kernel

/-- the first answer of the chain, parsed -/
theorem rx_parse_302 : ∃ resp, parseResponse .post 100 64 (rx_redirect "302 Found" "http://b/2") = .ok resp ∧
    resp.status = 302 ∧
    resp.headers = [(str "location", str "http://b/2"), (str "content-length", str "0")] :=
  rx_parse (by simp only [rx_redirect, str_data]; decide +kernel)

/-- the three exchanges of the chain without proxy -/
theorem rx_exchange_chain :
    exchange (rx_settings true 5) rx_req 64 0 rx_a
      { script := rx_redirect "302 Found" "http://b/2", resolved := some rx_b } = .follow rx_b ∧
    exchange (rx_settings true 5) rx_req 64 1 rx_b
      { script := rx_redirect "307 Temporary Redirect" "http://c/3", resolved := some rx_c } = .follow rx_c ∧
    exchange (rx_settings true 5) rx_req 64 2 rx_c { script := rx_ok, resolved := none } =
      .final (.ok 200 rx_c) := by
  simp only [rx_redirect, rx_ok, rx_req, rx_body, str_data]
  decide +kernel

end RdEx
end Atto
