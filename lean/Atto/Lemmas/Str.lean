/-
  Atto/Lemmas/Str.lean — `str` (bytes of a string literal) without the detour through
  `ByteArray.toList`.
-/
import Atto.Std.HeaderMap
namespace Atto

theorem byteArray_toList_loop (bs : ByteArray) (i : Nat) (r : List UInt8) :
    ByteArray.toList.loop bs i r = r.reverse ++ bs.data.toList.drop i := by
  fun_induction ByteArray.toList.loop bs i r with
  | case1 i r h ih =>
    rw [ih]
    have h' : i < bs.data.toList.length := h
    have h'' : i < bs.data.size := h
    rw [List.drop_eq_getElem_cons h']
    simp [ByteArray.get!, getElem!_pos bs.data i h'']
  | case2 i r h =>
    have h' : bs.data.toList.length ≤ i := Nat.le_of_not_lt h
    simp [List.drop_eq_nil_of_le h']

theorem byteArray_toList (bs : ByteArray) : bs.toList = bs.data.toList := by
  simp [ByteArray.toList, byteArray_toList_loop]

/-- `ByteArray.toList` yields its `i`-th byte as `get! i`, which the kernel evaluates by walking `i`
    cells: evaluating `str "…"` costs it time quadratic in the length of the literal. An evaluation that
    compares against long literals goes through this equation first (`simp only [str_data]`). -/
theorem str_data (s : String) : str s = s.toByteArray.data.toList := byteArray_toList _

/-- Cheaper still than `str_data` for a long literal that is only compared against (`rw`, not `simp`: a
    literal unifies with `String.ofList _`); dearer when the literal is taken apart several times. -/
theorem str_ofList (l : List Char) : str (String.ofList l) = l.flatMap String.utf8EncodeChar := by
  simp [str, String.toUTF8, String.ofList, List.utf8Encode, byteArray_toList]

theorem str_inj {a b : String} : str a = str b ↔ a = b := by
  simp only [str, String.toUTF8, byteArray_toList, Array.toList_inj]
  exact ⟨fun h => String.toByteArray_inj.1 (ByteArray.ext h), fun h => h ▸ rfl⟩

end Atto
