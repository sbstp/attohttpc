/-
  Atto/Lemmas/SendTLemmas.lean — helper definitions and lemmas for Props/C12t.lean: the redirect
  loop with transparent CONNECT tunnels (`sendLoopT`, Model/SendT.lean).
    * `tunnelHead` versus `initiateTunnel`;
    * one hop of `sendLoopT` split into its observation (`tn_obs`) and its outcome (`tn_step`),
      so that the loop is the generic `hopLoop` of Lemmas/HopLoop.lean (`sendLoopT_eq`), and its
      URLs (`tn_urls`) the generic `hopUrls` (`tn_urls_eq`);
    * `sendLoop` is the same loop with the observations projected and a step that stops where a
      tunnel is agreed (`rd_obs_eq_out`, `rd_step_refines`);
    * the credentials of the proxy URLs influence nothing but the CONNECT head (`tn_nonint`).
  Reuses Lemmas/Redirect.lean (`rd_tunnels`, `rd_hopHdrs`, `rd_plainOut`, `rd_hdrsSeq`, …).
-/
import Atto.Model.SendT
import Atto.Lemmas.Redirect
namespace Atto
open Atto.Rd

/-! ### `tunnelHead` and `initiateTunnel` -/

theorem tn_tunnelHead_initiateTunnel (mh cap : Nat) (t : Transport) :
    initiateTunnel mh cap t = match tunnelHead mh cap t with | .inl f => f | .inr _ => .tlsStarted := by
  unfold initiateTunnel tunnelHead
  simp only
  generalize parseResponseHead bufSrc { buf := [], cap := cap, inner := t } mh = p
  obtain ⟨res, r1⟩ := p
  cases res with
  | ok v =>
    obtain ⟨status, hs⟩ := v
    simp only
    by_cases h2 : 200 ≤ status ∧ status < 300
    · simp only [h2, and_self, if_true]
    · simp only [h2, if_false]
      cases readToEndTake (Consts.connectBodyCap + r1.inner.length + 2) r1 Consts.connectBodyCap [] <;> rfl
  | err e => rfl
  | blocked => rfl
  | panic => rfl

/-- a refusal is never `tlsStarted` -/
theorem tn_tunnelHead_inl_ne_tls {mh cap : Nat} {t : Transport} {f : Final} :
    tunnelHead mh cap t = .inl f → f ≠ .tlsStarted := by
  unfold tunnelHead
  simp only
  generalize parseResponseHead bufSrc { buf := [], cap := cap, inner := t } mh = p
  obtain ⟨res, r1⟩ := p
  intro h hf
  subst hf
  cases res with
  | ok v =>
    obtain ⟨status, hs⟩ := v
    simp only at h
    by_cases h2 : 200 ≤ status ∧ status < 300
    · simp only [h2, and_self, if_true] at h; cases h
    · simp only [h2, if_false] at h
      cases hr : readToEndTake (Consts.connectBodyCap + r1.inner.length + 2) r1 Consts.connectBodyCap [] <;>
        rw [hr] at h <;> cases h
  | err e => cases h
  | blocked => cases h
  | panic => cases h

/-! ### one hop -/

/-- the observation of a tunnel hop whose CONNECT was refused (or not answered) -/
def tn_connectOut (s : SendSettings) (url : Url) : HopOut :=
  { dialScheme := (rd_target s url).scheme, dialHost := (rd_target s url).host,
    dialPort := (rd_target s url).effPort, wrote := connectRequest url (rd_target s url), tlsName := none }

/-- the observation of a tunnel hop whose CONNECT was answered 2xx -/
def tn_agreedOut (s : SendSettings) (url : Url) : HopOut :=
  { tn_connectOut s url with tlsName := some url.host, tlsNameIsDomain := url.hostKind != 1 }

/-- the request written inside the tunnel: origin-form, the hop's own `Host` -/
def tn_innerReq (req : Req) (url : Url) (hdrs : Headers) (first : Bool) : Bytes :=
  writeRequest req.method url false (setHost hdrs url) (rd_body req first)

/-- what is observed on the connection `hop` made for `url`, with `hdrs` the header map left by
    the previous hop -/
def tn_obs (s : SendSettings) (req : Req) (cap : Nat) (hop : Hop) (url : Url) (hdrs : Headers)
    (first : Bool) : HopOutT :=
  if rd_tunnels s url then
    match tunnelHead s.maxHeaders cap hop.script with
    | .inl _ => { out := tn_connectOut s url }
    | .inr _ => { out := tn_agreedOut s url, inner := some (tn_innerReq req url hdrs first) }
  else { out := rd_plainOut s req url hdrs first }

/-- where the hop's response is read from (`inr`), or how the CONNECT failed (`inl`) -/
def tn_script (s : SendSettings) (cap : Nat) (hop : Hop) (url : Url) : Final ⊕ Transport :=
  if rd_tunnels s url then
    match tunnelHead s.maxHeaders cap hop.script with
    | .inl f => .inl f
    | .inr r => .inr (tunnelRest r)
  else .inr hop.script

/-- the outcome of one hop: stop with a result, or follow a redirect -/
def tn_step (s : SendSettings) (req : Req) (cap n : Nat) (hop : Hop) (url : Url) : HopRes :=
  match tn_script s cap hop url with
  | .inl f => .final f
  | .inr t => exchange s req cap n url { hop with script := t }

/-- what `rd_tunnels` means -/
theorem tn_tunnels_iff (s : SendSettings) (url : Url) :
    rd_tunnels s url = true ↔ ∃ p, s.proxy.forUrl url = some p ∧ url.scheme = str "https" := by
  unfold rd_tunnels
  cases s.proxy.forUrl url <;> simp

theorem tn_target_of_forUrl {s : SendSettings} {url p : Url} (hp : s.proxy.forUrl url = some p) :
    rd_target s url = p := by
  simp [rd_target, hp]

section
variable {s : SendSettings} {req : Req} {cap n : Nat} {hop : Hop} {url : Url} {hdrs : Headers} {first : Bool}

theorem tn_step_plain :
    rd_tunnels s url = false → tn_step s req cap n hop url = exchange s req cap n url hop := by
  intro ht; simp [tn_step, tn_script, ht]

theorem tn_step_refused {f : Final} :
    rd_tunnels s url = true → tunnelHead s.maxHeaders cap hop.script = .inl f →
    tn_step s req cap n hop url = .final f := by
  intro ht hh; simp [tn_step, tn_script, ht, hh]

/-- a hop is followed only below the limit, and to the URL its `Location` resolved to -/
theorem tn_step_follow_inv {next : Url} :
    tn_step s req cap n hop url = .follow next →
    s.followRedirects = true ∧ n + 1 ≤ s.maxRedirections ∧ hop.resolved = some next := by
  unfold tn_step
  split
  · intro h; cases h
  · intro h
    obtain ⟨_, _, _, hf, _, hn, _, hr, _⟩ := rd_exchange_follow_inv h
    exact ⟨hf, hn, hr⟩

theorem tn_obs_plain : rd_tunnels s url = false →
    tn_obs s req cap hop url hdrs first = { out := rd_plainOut s req url hdrs first } := by
  intro ht; simp [tn_obs, ht]

theorem tn_obs_refused {f : Final} : rd_tunnels s url = true →
    tunnelHead s.maxHeaders cap hop.script = .inl f →
    tn_obs s req cap hop url hdrs first = { out := tn_connectOut s url } := by
  intro ht hh; simp [tn_obs, ht, hh]

theorem tn_obs_agreed {r : BufR} : rd_tunnels s url = true →
    tunnelHead s.maxHeaders cap hop.script = .inr r →
    tn_obs s req cap hop url hdrs first =
      { out := tn_agreedOut s url, inner := some (tn_innerReq req url hdrs first) } := by
  intro ht hh; simp [tn_obs, ht, hh]

/-- an observation has an `inner` request only on a tunnel hop whose CONNECT was agreed -/
theorem tn_obs_inner {w : Bytes} :
    (tn_obs s req cap hop url hdrs first).inner = some w →
    rd_tunnels s url = true ∧ (∃ r, tunnelHead s.maxHeaders cap hop.script = .inr r) ∧
      w = tn_innerReq req url hdrs first ∧
      (tn_obs s req cap hop url hdrs first).out = tn_agreedOut s url := by
  intro h
  cases ht : rd_tunnels s url with
  | false => rw [tn_obs_plain ht] at h; cases h
  | true =>
    cases hh : tunnelHead s.maxHeaders cap hop.script with
    | inl f => rw [tn_obs_refused ht hh] at h; cases h
    | inr r =>
      rw [tn_obs_agreed ht hh] at h ⊢
      simp only [Option.some.injEq] at h
      exact ⟨rfl, ⟨r, rfl⟩, h.symm, rfl⟩

end

theorem tn_step_agreed {s : SendSettings} {req : Req} {cap n : Nat} {hop : Hop} {url : Url} {r : BufR} :
    rd_tunnels s url = true → tunnelHead s.maxHeaders cap hop.script = .inr r →
    tn_step s req cap n hop url = exchange s req cap n url { hop with script := tunnelRest r } := by
  intro ht hh; simp [tn_step, tn_script, ht, hh]

/-- what `sendLoop` observes on a hop is the `out` part of what `sendLoopT` observes -/
theorem rd_obs_eq_out (s : SendSettings) (req : Req) (cap : Nat) (hop : Hop) (u : Url) (hdrs : Headers)
    (first : Bool) : rd_obs s req cap hop u hdrs first = (tn_obs s req cap hop u hdrs first).out := by
  cases ht : rd_tunnels s u with
  | false => rw [rd_obs_plain ht, tn_obs_plain ht]
  | true =>
    rw [rd_obs_tunnel ht, tn_tunnelHead_initiateTunnel]
    cases h : tunnelHead s.maxHeaders cap hop.script with
    | inl f =>
      rw [tn_obs_refused ht h]
      have hf := tn_tunnelHead_inl_ne_tls h
      cases f <;> first | rfl | exact absurd rfl hf
    | inr r => rw [tn_obs_agreed ht h]; rfl

/-- whatever the hop: who is dialled -/
theorem tn_obs_dial (s : SendSettings) (req : Req) (cap : Nat) (hop : Hop) (url : Url) (hdrs : Headers)
    (first : Bool) :
    (tn_obs s req cap hop url hdrs first).out.dialScheme = (rd_target s url).scheme ∧
    (tn_obs s req cap hop url hdrs first).out.dialHost = (rd_target s url).host ∧
    (tn_obs s req cap hop url hdrs first).out.dialPort = (rd_target s url).effPort := by
  rw [← rd_obs_eq_out]
  exact rd_obs_dial s req cap hop url hdrs first

/-! ### `sendLoopT`, one equation -/

theorem tn_loop_nil (s : SendSettings) (req : Req) (cap : Nat) (url : Url) (n : Nat)
    (hdrs : Headers) (first : Bool) :
    sendLoopT s req cap [] url n hdrs first = ([], .outOfHops) := rfl

theorem tn_loop_cons (s : SendSettings) (req : Req) (cap : Nat) (hop : Hop) (rest : List Hop)
    (url : Url) (n : Nat) (hdrs : Headers) (first : Bool) :
    sendLoopT s req cap (hop :: rest) url n hdrs first =
      match tn_step s req cap n hop url with
      | .final f => ([tn_obs s req cap hop url hdrs first], f)
      | .follow next =>
        match rest with
        | [] => ([tn_obs s req cap hop url hdrs first], .outOfHops)
        | _ :: _ =>
          (tn_obs s req cap hop url hdrs first ::
            (sendLoopT s req cap rest next (n + 1) (rd_hopHdrs s hdrs url) false).1,
           (sendLoopT s req cap rest next (n + 1) (rd_hopHdrs s hdrs url) false).2) := by
  rw [sendLoopT]
  by_cases ht : rd_tunnels s url = true
  · have ht' : ((s.proxy.forUrl url).isSome && url.scheme == str "https") = true := ht
    have hs : (url.scheme == str "https") = true := by
      simp only [Bool.and_eq_true] at ht'; exact ht'.2
    have hh : (url.scheme == str "http") = false := by
      have : url.scheme = str "https" := by simpa using hs
      simp [this, str_inj]
    simp only [ht', if_true, tn_step, tn_script, tn_obs, ht]
    cases hth : tunnelHead s.maxHeaders cap hop.script with
    | inl f => rfl
    | inr r =>
      simp only [hh, Bool.false_and, tn_agreedOut, tn_connectOut, tn_innerReq, rd_target, rd_body, rd_hopHdrs]
      cases s.proxy.forUrl url <;> rfl
  · have ht' : ¬ ((s.proxy.forUrl url).isSome && url.scheme == str "https") = true := ht
    simp only [ht', tn_step, tn_script, tn_obs, ht]
    rfl

/-! ### `sendLoopT` is a `hopLoop` -/

/-- The URLs used for the successive hops of `sendLoopT`: first `url`, then what each followed
    hop's `Location` resolved to — through tunnels as well. -/
def tn_urls (s : SendSettings) (req : Req) (cap : Nat) : List Hop → Url → Nat → List Url
  | [], _, _ => []
  | hop :: rest, url, n =>
    match tn_step s req cap n hop url with
    | .final _ => [url]
    | .follow next =>
      match rest with
      | [] => [url]
      | _ :: _ => url :: tn_urls s req cap rest next (n + 1)

theorem sendLoopT_eq (s : SendSettings) (req : Req) (cap : Nat) (hops : List Hop) :
    ∀ url n hdrs first, sendLoopT s req cap hops url n hdrs first =
      hopLoop (rd_hopHdrs s) (tn_step s req cap) (tn_obs s req cap) hops url n hdrs first :=
  hopLoop_unique _ (tn_loop_nil s req cap) (tn_loop_cons s req cap) hops

theorem tn_urls_eq (s : SendSettings) (req : Req) (cap : Nat) (hops : List Hop) :
    ∀ url n, tn_urls s req cap hops url n = hopUrls (tn_step s req cap) hops url n :=
  hopUrls_unique _ (fun _ _ => rfl) (fun _ _ _ _ => rfl) hops

/-- Every observation of `sendLoopT`, by position: it is `tn_obs` of the `i`-th connection, the
    `i`-th URL of the chain and the header map left by the hops before (`rd_hdrsSeq`: only ever
    changed by `set_host`); the body is written in full on the very first hop only, unless it can
    be rewound. -/
theorem tn_outs {s : SendSettings} {req : Req} {cap : Nat} {hops : List Hop} {url : Url} {n : Nat}
    {hdrs : Headers} {first : Bool} {i : Nat} {o : HopOutT} :
    (sendLoopT s req cap hops url n hdrs first).1[i]? = some o →
    ∃ u hin hop, (tn_urls s req cap hops url n)[i]? = some u ∧
      (rd_hdrsSeq s hdrs (tn_urls s req cap hops url n))[i]? = some hin ∧
      hops[i]? = some hop ∧ o = tn_obs s req cap hop u hin (first && i == 0) := by
  rw [sendLoopT_eq, tn_urls_eq, rd_hdrsSeq_eq]
  exact hopLoop_get_some

/-! ### `sendLoopT` refines `sendLoop` -/

/-- a hop of `sendLoop` ends as the hop of `sendLoopT` does, or with `tlsStarted` (an agreed tunnel) -/
theorem rd_step_refines (s : SendSettings) (req : Req) (cap n : Nat) (hop : Hop) (u : Url) :
    rd_step s req cap n hop u = tn_step s req cap n hop u ∨
      rd_step s req cap n hop u = .final .tlsStarted := by
  cases ht : rd_tunnels s u with
  | false => rw [rd_step_plain ht, tn_step_plain ht]; exact .inl rfl
  | true =>
    rw [rd_step_tunnel ht, tn_tunnelHead_initiateTunnel]
    cases h : tunnelHead s.maxHeaders cap hop.script with
    | inl f => rw [tn_step_refused ht h]; exact .inl rfl
    | inr r => exact .inr rfl

theorem sendLoopT_map {β : Type} (s : SendSettings) (req : Req) (cap : Nat) (hops : List Hop) (url : Url)
    (n : Nat) (hdrs : Headers) (first : Bool) (π : HopOutT → β) :
    ((sendLoopT s req cap hops url n hdrs first).1.map π, (sendLoopT s req cap hops url n hdrs first).2) =
      hopLoop (rd_hopHdrs s) (tn_step s req cap) (fun hop u h f => π (tn_obs s req cap hop u h f))
        hops url n hdrs first := by
  rw [sendLoopT_eq, hopLoop_map]

/-! ### the proxy URLs' credentials -/

/-- two URLs that differ at most in `user` / `pass` -/
def Url.sameUpToCreds (p q : Url) : Prop := { p with user := q.user, pass := q.pass } = q

/-- both absent, or both present and equal up to `user` / `pass` -/
def tn_optSame : Option Url → Option Url → Prop
  | none, none => True
  | some p, some q => p.sameUpToCreds q
  | _, _ => False

/-- two proxy configurations that differ at most in the `user` / `pass` of the proxy URLs -/
def ProxySettings.sameUpToCreds (a b : ProxySettings) : Prop :=
  a.disabled = b.disabled ∧ a.noProxy = b.noProxy ∧
  tn_optSame a.httpProxy b.httpProxy ∧ tn_optSame a.httpsProxy b.httpsProxy

theorem Url.sameUpToCreds.fields {p q : Url} (h : p.sameUpToCreds q) :
    p.scheme = q.scheme ∧ p.host = q.host ∧ p.hostKind = q.hostKind ∧ p.port = q.port ∧
    p.effPort = q.effPort ∧ p.path = q.path ∧ p.query = q.query ∧ p.fragment = q.fragment := by
  unfold Url.sameUpToCreds at h
  rw [← h]
  exact ⟨rfl, rfl, rfl, rfl, rfl, rfl, rfl, rfl⟩

theorem Url.sameUpToCreds.authority {p q : Url} (h : p.sameUpToCreds q) : p.authority = q.authority := by
  obtain ⟨_, hh, _, hp, _⟩ := h.fields
  unfold Url.authority; rw [hh, hp]

theorem tn_optSame_refl (a : Option Url) : tn_optSame a a := by
  cases a with
  | none => trivial
  | some p => show p.sameUpToCreds p; rfl

theorem ProxySettings.sameUpToCreds.refl (a : ProxySettings) : a.sameUpToCreds a :=
  ⟨rfl, rfl, tn_optSame_refl _, tn_optSame_refl _⟩

/-- `for_url` does not look at the proxy URLs at all when it decides: the selections agree up to
    the credentials. -/
theorem tn_forUrl_same {a b : ProxySettings} (h : a.sameUpToCreds b) (u : Url) :
    tn_optSame (a.forUrl u) (b.forUrl u) := by
  obtain ⟨hd, hn, h1, h2⟩ := h
  unfold ProxySettings.forUrl
  rw [← hd, ← hn]
  cases a.disabled
  · cases a.noProxy.any fun e => noProxyMatch u.host (lowerBytes e)
    · cases u.scheme == str "http"
      · cases u.scheme == str "https"
        · trivial
        · exact h2
      · exact h1
    · trivial
  · trivial

/-- the second setting: the same, with the other proxy configuration -/
abbrev tn_with (s : SendSettings) (ps : ProxySettings) : SendSettings := { s with proxy := ps }

section nonint
variable {s : SendSettings} {ps : ProxySettings} (h : s.proxy.sameUpToCreds ps)
include h

/-- for every URL both settings select no proxy, or proxies equal up to the credentials -/
theorem tn_ni_forUrl (u : Url) :
    (s.proxy.forUrl u = none ∧ ps.forUrl u = none) ∨
    ∃ p q, s.proxy.forUrl u = some p ∧ ps.forUrl u = some q ∧ p.sameUpToCreds q := by
  have := tn_forUrl_same h u
  cases h1 : s.proxy.forUrl u <;> cases h2 : ps.forUrl u <;> rw [h1, h2] at this
  · exact .inl ⟨rfl, rfl⟩
  · exact this.elim
  · exact this.elim
  · exact .inr ⟨_, _, rfl, rfl, this⟩

theorem tn_ni_isSome (u : Url) : (ps.forUrl u).isSome = (s.proxy.forUrl u).isSome := by
  rcases tn_ni_forUrl h u with ⟨h1, h2⟩ | ⟨p, q, h1, h2, _⟩ <;> rw [h1, h2] <;> rfl

theorem tn_ni_tunnels (u : Url) : rd_tunnels (tn_with s ps) u = rd_tunnels s u := by
  show ((ps.forUrl u).isSome && _) = ((s.proxy.forUrl u).isSome && _)
  rw [tn_ni_isSome h]

theorem tn_ni_plainViaProxy (u : Url) : rd_plainViaProxy (tn_with s ps) u = rd_plainViaProxy s u := by
  show (_ && (ps.forUrl u).isSome) = (_ && (s.proxy.forUrl u).isSome)
  rw [tn_ni_isSome h]

theorem tn_ni_target (u : Url) : (rd_target s u).sameUpToCreds (rd_target (tn_with s ps) u) := by
  show Url.sameUpToCreds ((s.proxy.forUrl u).getD u) ((ps.forUrl u).getD u)
  rcases tn_ni_forUrl h u with ⟨h1, h2⟩ | ⟨p, q, h1, h2, hpq⟩ <;> rw [h1, h2]
  · show u.sameUpToCreds u; rfl
  · exact hpq

/-- `Host` names the proxy only through its authority, which has no credentials in it -/
theorem tn_ni_hopHdrs : rd_hopHdrs (tn_with s ps) = rd_hopHdrs s := by
  funext hdrs u
  rw [rd_hopHdrs_eq, rd_hopHdrs_eq, rd_hostUrl_eq, rd_hostUrl_eq, tn_ni_plainViaProxy h]
  split
  · rw [setHost, setHost, (tn_ni_target h u).authority]
  · rfl

theorem tn_ni_step (req : Req) (cap : Nat) : tn_step (tn_with s ps) req cap = tn_step s req cap := by
  funext n hop u
  unfold tn_step tn_script; rw [tn_ni_tunnels h]; rfl

/-- what does not depend on the credentials of the proxy URLs: everything but `wrote` -/
def tn_view (o : HopOutT) : Option Bytes × Bytes × Bytes × Nat × Option Bytes × Bool :=
  (o.inner, o.out.dialScheme, o.out.dialHost, o.out.dialPort, o.out.tlsName, o.out.tlsNameIsDomain)

/-- the two observations of one hop: equal except for `wrote` on a tunnel hop, where both are the
    CONNECT head, for proxy URLs equal up to the credentials -/
theorem tn_ni_obs (req : Req) (cap : Nat) (hop : Hop) (u : Url) (hdrs : Headers) (first : Bool) :
    tn_view (tn_obs (tn_with s ps) req cap hop u hdrs first) = tn_view (tn_obs s req cap hop u hdrs first) ∧
    ((tn_obs (tn_with s ps) req cap hop u hdrs first).out.wrote = (tn_obs s req cap hop u hdrs first).out.wrote ∨
      ∃ p p', s.proxy.forUrl u = some p ∧ ps.forUrl u = some p' ∧ p.sameUpToCreds p' ∧
        (tn_obs s req cap hop u hdrs first).out.wrote = connectRequest u p ∧
        (tn_obs (tn_with s ps) req cap hop u hdrs first).out.wrote = connectRequest u p') := by
  have htt := tn_ni_tunnels h u
  cases ht : rd_tunnels s u with
  | false =>
    have e : rd_plainOut (tn_with s ps) req u hdrs first = rd_plainOut s req u hdrs first := by
      obtain ⟨h1, h2, _, _, h5, _⟩ := (tn_ni_target h u).fields
      unfold rd_plainOut
      rw [tn_ni_plainViaProxy h, tn_ni_hopHdrs h, ← h1, ← h2, ← h5]
    rw [tn_obs_plain ht, tn_obs_plain (htt.trans ht), e]
    exact ⟨rfl, .inl rfl⟩
  | true =>
    -- a tunnel hop: both settings select a proxy; the two differ in the credentials at most
    rcases tn_ni_forUrl h u with ⟨h1, _⟩ | ⟨p, q, hp, hq, hpq⟩
    · simp [rd_tunnels, h1] at ht
    have hq : (tn_with s ps).proxy.forUrl u = some q := hq
    obtain ⟨f1, f2, _, _, f5, _⟩ := hpq.fields
    cases hh : tunnelHead s.maxHeaders cap hop.script with
    | inl f =>
      rw [tn_obs_refused ht hh, tn_obs_refused (htt.trans ht) hh]
      simp only [tn_view, tn_connectOut, tn_target_of_forUrl hp, tn_target_of_forUrl hq, f1, f2, f5]
      exact ⟨trivial, .inr ⟨p, q, hp, hq, hpq, rfl, rfl⟩⟩
    | inr r =>
      rw [tn_obs_agreed ht hh, tn_obs_agreed (htt.trans ht) hh]
      simp only [tn_view, tn_agreedOut, tn_connectOut, tn_target_of_forUrl hp, tn_target_of_forUrl hq,
        f1, f2, f5]
      exact ⟨trivial, .inr ⟨p, q, hp, hq, hpq, rfl, rfl⟩⟩

/-- The loop: same outcome, same observations up to `wrote`: step, header update and the view of the
    observation are the same functions, so the two runs are one and the same `hopLoop`. -/
theorem tn_nonint (req : Req) (cap : Nat) (hops : List Hop) (url : Url) (n : Nat) (hdrs : Headers)
    (first : Bool) :
    (sendLoopT (tn_with s ps) req cap hops url n hdrs first).2 = (sendLoopT s req cap hops url n hdrs first).2 ∧
    (sendLoopT (tn_with s ps) req cap hops url n hdrs first).1.map tn_view =
      (sendLoopT s req cap hops url n hdrs first).1.map tn_view := by
  have e3 : (fun hop u hd f => tn_view (tn_obs (tn_with s ps) req cap hop u hd f)) =
      fun hop u hd f => tn_view (tn_obs s req cap hop u hd f) := by
    funext hop u hd f; exact (tn_ni_obs h req cap hop u hd f).1
  have a := sendLoopT_map s req cap hops url n hdrs first tn_view
  have b := sendLoopT_map (tn_with s ps) req cap hops url n hdrs first tn_view
  rw [tn_ni_step h, tn_ni_hopHdrs h, e3, ← a] at b
  exact ⟨(Prod.mk.inj b).2, (Prod.mk.inj b).1⟩

end nonint


/-! ### `sendT` -/

/-- The URLs used for the successive hops of `sendT s req cap url hops`. -/
def urlsVisitedT (s : SendSettings) (req : Req) (cap : Nat) (url : Url) (hops : List Hop) : List Url :=
  tn_urls s req cap hops url 0

/-- The header map *left by the previous hop* for each hop of `sendT` (hop 0: the prepared headers
    of the request; afterwards only `set_host` has been applied). -/
def hdrsVisitedT (s : SendSettings) (req : Req) (cap : Nat) (url : Url) (hops : List Hop) : List Headers :=
  rd_hdrsSeq s req.headers (urlsVisitedT s req cap url hops)

end Atto
