/-
  Atto/Lemmas/BufReaderRefine.lean — the `BufReader` model over an arbitrary well-formed scripted
  transport refines the flat-stream specifications `specExact` / `specUntil`, and the fuel-exhausted
  (`panic`) branches of the loops are unreachable.
-/
import Atto.Std.BufReader
import Atto.Spec.Flat
import Atto.Lemmas.ListFacts
namespace Atto

/-- invariant preserved by every BufReader operation -/
def BufR.Ok (r : BufR) : Prop := wfT r.inner ∧ 0 < r.cap

/-! ### spec helpers -/

@[simp] theorem specExact_zero (is : List Item) : specExact 0 is = (.ok [], is) := by
  cases is <;> simp [specExact]

@[simp] theorem specUntil_zero (is : List Item) (acc : Bytes) :
    specUntil 0 is acc = (.ok (acc, 0), is) := by
  cases is <;> simp [specUntil]

theorem specExact_bytes (pre : Bytes) : ∀ (n : Nat) (rest : List Item), pre.length ≤ n →
    specExact n (pre.map .byte ++ rest) =
      ((specExact (n - pre.length) rest).1.map (pre ++ ·), (specExact (n - pre.length) rest).2) := by
  induction pre with
  | nil => intro n rest _; simp
  | cons b pre ih =>
    intro n rest h
    cases n with
    | zero => simp at h
    | succ n =>
      simp only [List.map_cons, List.cons_append, specExact, List.length_cons, Nat.add_sub_add_right]
      rw [ih n rest (by simpa using h), RR.map_map]
      rfl

theorem specExact_take (bs : Bytes) (n : Nat) (rest : List Item) (h : n ≤ bs.length) :
    specExact n (bs.map .byte ++ rest) = (.ok (bs.take n), (bs.drop n).map .byte ++ rest) := by
  induction bs generalizing n with
  | nil => simp at h; subst h; simp
  | cons b bs ih =>
    cases n with
    | zero => simp
    | succ n => simp [specExact, ih n (by simpa using h)]

/-- `specUntil` over a run of bytes whose first `limit` bytes contain LF at index `i`. -/
theorem specUntil_found (bs : Bytes) : ∀ (limit i : Nat) (acc : Bytes) (rest : List Item),
    (bs.take limit).idxOf? 10 = some i →
    specUntil limit (bs.map .byte ++ rest) acc =
      (.ok (acc ++ (bs.take limit).take (i+1), limit - (i+1)), (bs.drop (i+1)).map .byte ++ rest) := by
  induction bs with
  | nil => intro limit i acc rest h; simp at h
  | cons b bs ih =>
    intro limit i acc rest h
    cases limit with
    | zero => simp at h
    | succ l =>
      simp only [List.take_succ_cons, List.idxOf?_cons] at h
      by_cases hb : b = 10
      · subst hb
        simp at h
        subst h
        simp [specUntil]
      · have hb' : (b == 10) = false := by simpa using hb
        simp only [hb', Bool.false_eq_true, if_false, Option.map_eq_some_iff] at h
        obtain ⟨j, hj, rfl⟩ := h
        have := ih l j (acc ++ [b]) rest hj
        simp only [List.map_cons, List.cons_append, specUntil, hb, if_false, List.take_succ_cons,
          List.drop_succ_cons, Nat.add_sub_add_right]
        rw [this]
        simp

/-- `specUntil` over a run of bytes whose first `limit` bytes contain no LF. -/
theorem specUntil_none (bs : Bytes) : ∀ (limit : Nat) (acc : Bytes) (rest : List Item),
    (bs.take limit).idxOf? 10 = none →
    specUntil limit (bs.map .byte ++ rest) acc =
      specUntil (limit - (bs.take limit).length)
        ((bs.drop (bs.take limit).length).map .byte ++ rest) (acc ++ bs.take limit) := by
  induction bs with
  | nil => intro limit acc rest _; simp
  | cons b bs ih =>
    intro limit acc rest h
    cases limit with
    | zero => simp
    | succ l =>
      simp only [List.take_succ_cons, List.idxOf?_cons] at h
      by_cases hb : b = 10
      · subst hb; simp at h
      · have hb' : (b == 10) = false := by simpa using hb
        simp only [hb', Bool.false_eq_true, if_false, Option.map_eq_none_iff] at h
        have := ih l (acc ++ [b]) rest h
        simp only [List.map_cons, List.cons_append, specUntil, hb, if_false, List.take_succ_cons,
          List.length_cons, List.drop_succ_cons, Nat.add_sub_add_right]
        rw [this]
        simp

/-! ### one transport read -/

theorem transport_read_spec (t : Transport) (n : Nat) (hw : wfT t) (hn : 0 < n) :
    wfT (t.read n).2 ∧ (t.read n).2.length ≤ t.length ∧
    (match flatT t with
     | [] => (t.read n).1 = .ok [] ∧ flatT (t.read n).2 = []
     | .byte _ :: _ => ∃ bs, (t.read n).1 = .ok bs ∧ bs ≠ [] ∧ bs.length ≤ n ∧
                         bs.map Item.byte ++ flatT (t.read n).2 = flatT t
     | .err k :: rest => (t.read n).1 = .err (.io k) ∧ flatT (t.read n).2 = rest ∧
                         (t.read n).2.length < t.length
     | .pause :: rest => (t.read n).1 = .blocked ∧ flatT (t.read n).2 = .pause :: rest) := by
  cases t with
  | nil => simp [Transport.read, flatT, wfT]
  | cons s t =>
    cases s with
    | data bs =>
      obtain ⟨hne, hwt⟩ := hw
      cases bs with
      | nil => exact absurd rfl hne
      | cons b bs =>
        simp only [Transport.read, flatT, List.map_cons, List.cons_append]
        by_cases hl : (b :: bs).length ≤ n
        · simp only [hl, if_true]
          refine ⟨hwt, by simp, b :: bs, rfl, by simp, hl, by simp⟩
        · simp only [hl, if_false]
          refine ⟨⟨?_, hwt⟩, by simp, (b :: bs).take n, rfl, ?_, by simp; omega, ?_⟩
          · exact fun hc => hl (List.drop_eq_nil_iff.mp hc)
          · exact take_ne_nil (by simp) (Nat.ne_of_gt hn)
          · simp only [flatT]
            rw [← List.append_assoc, ← List.map_append, List.take_append_drop]
            simp
    | err k => simpa [Transport.read, flatT, wfT] using hw
    | pause => simpa [Transport.read, flatT, wfT] using hw

/-! ### fill_buf -/

theorem fillBuf_spec (r : BufR) (h : r.Ok) :
    (r.fillBuf).2.Ok ∧ (r.fillBuf).2.cap = r.cap ∧ (r.fillBuf).2.inner.length ≤ r.inner.length ∧
    (match r.flat with
     | [] => (r.fillBuf).1 = .ok () ∧ (r.fillBuf).2.buf = [] ∧ (r.fillBuf).2.flat = []
     | .byte _ :: _ => (r.fillBuf).1 = .ok () ∧ (r.fillBuf).2.buf ≠ [] ∧ (r.fillBuf).2.flat = r.flat
     | .err k :: rest => (r.fillBuf).1 = .err (.io k) ∧ (r.fillBuf).2.flat = rest ∧
                         (r.fillBuf).2.inner.length < r.inner.length
     | .pause :: rest => (r.fillBuf).1 = .blocked ∧ (r.fillBuf).2.flat = .pause :: rest) := by
  obtain ⟨buf, cap, inner⟩ := r
  obtain ⟨hw, hc⟩ := h
  simp only at hw hc
  cases buf with
  | cons b buf => simp [BufR.fillBuf, BufR.Ok, BufR.flat, hw, hc]
  | nil =>
    have ht := transport_read_spec inner cap hw hc
    simp only [BufR.fillBuf, BufR.flat, List.map_nil, List.nil_append, ne_eq, not_true_eq_false,
      if_false]
    rcases hrd : inner.read cap with ⟨res, t'⟩
    rw [hrd] at ht
    simp only at ht
    obtain ⟨hw', hlen, hm⟩ := ht
    rcases hfl : flatT inner with _ | ⟨(b | k | _), rest⟩ <;> rw [hfl] at hm <;> simp only at hm
    · obtain ⟨rfl, hf'⟩ := hm
      simp [BufR.Ok, hw', hc, hlen, hf']
    · obtain ⟨bs, rfl, hne, _, hf'⟩ := hm
      simp [BufR.Ok, hw', hc, hlen, hf', hne]
    · obtain ⟨rfl, hf', hlt⟩ := hm
      simp [BufR.Ok, hw', hc, hlen, hf', hlt]
    · obtain ⟨rfl, hf'⟩ := hm
      simp [BufR.Ok, hw', hc, hlen, hf']

/-! ### read -/

/-- A single `BufReader::read` with a non-empty caller buffer: a non-empty prefix of the leading
    bytes, or the leading non-byte item, or EOF; with the facts about `inner.length` that the fuel
    bounds of the loops need. -/
theorem read_spec_strong (r : BufR) (n : Nat) (h : r.Ok) (hn : 0 < n) :
    (r.read n).2.Ok ∧ (r.read n).2.cap = r.cap ∧ (r.read n).2.inner.length ≤ r.inner.length ∧
    (match r.flat with
     | [] => (r.read n).1 = .ok [] ∧ (r.read n).2.flat = []
     | .byte _ :: _ => ∃ bs, (r.read n).1 = .ok bs ∧ bs ≠ [] ∧ bs.length ≤ n ∧
                         bs.map Item.byte ++ (r.read n).2.flat = r.flat
     | .err k :: rest => (r.read n).1 = .err (.io k) ∧ (r.read n).2.flat = rest ∧
                         (r.read n).2.inner.length < r.inner.length
     | .pause :: rest => (r.read n).1 = .blocked ∧ (r.read n).2.flat = .pause :: rest) := by
  unfold BufR.read
  by_cases hby : r.buf = [] ∧ r.cap ≤ n
  · simp only [hby, and_self, if_true]
    obtain ⟨buf, cap, inner⟩ := r
    obtain ⟨hw, hc⟩ := h
    simp only at hw hc hby
    obtain ⟨rfl, _⟩ := hby
    have ht := transport_read_spec inner n hw hn
    simp only [BufR.flat, List.map_nil, List.nil_append, BufR.Ok]
    exact ⟨⟨ht.1, hc⟩, trivial, ht.2.1, ht.2.2⟩
  · simp only [hby, if_false]
    have hf := fillBuf_spec r h
    rcases hfb : r.fillBuf with ⟨res, r'⟩
    rw [hfb] at hf
    simp only at hf
    obtain ⟨hok, hcap, hlen, hm⟩ := hf
    rcases hfl : r.flat with _ | ⟨(b | k | _), rest⟩ <;> rw [hfl] at hm <;> simp only at hm
    · obtain ⟨rfl, hb', hf'⟩ := hm
      exact ⟨hok, hcap, hlen, by simp [hb'], by simpa [BufR.consume, BufR.flat, hb'] using hf'⟩
    · obtain ⟨rfl, hb', hf'⟩ := hm
      simp only [BufR.consume, BufR.Ok] at hok ⊢
      refine ⟨hok, hcap, hlen, r'.buf.take n, rfl, ?_, by simp; omega, ?_⟩
      · exact take_ne_nil hb' (Nat.ne_of_gt hn)
      · rw [← hf']
        simp only [BufR.flat]
        rw [← List.append_assoc, ← List.map_append, List.take_append_drop]
    · obtain ⟨rfl, hf', hlt⟩ := hm
      exact ⟨hok, hcap, hlen, rfl, hf', hlt⟩
    · obtain ⟨rfl, hf'⟩ := hm
      exact ⟨hok, hcap, hlen, rfl, hf'⟩

/-- `read` with any caller buffer size: a prefix of the leading bytes (non-empty unless `n = 0`), or
    the leading non-byte item, or EOF. -/
theorem read_any_spec (r : BufR) (n : Nat) (h : r.Ok) :
    (r.read n).2.Ok ∧
    (match r.flat with
     | [] => (r.read n).1 = .ok [] ∧ (r.read n).2.flat = []
     | .byte _ :: _ => ∃ bs, (r.read n).1 = .ok bs ∧ (0 < n → bs ≠ []) ∧ bs.length ≤ n ∧
                         bytesI bs ++ (r.read n).2.flat = r.flat
     | .err k :: rest => (r.read n).1 = .err (.io k) ∧ (r.read n).2.flat = rest
     | .pause :: rest => (r.read n).1 = .blocked ∧ (r.read n).2.flat = .pause :: rest) := by
  cases n with
  | zero =>
    -- an empty caller buffer never bypasses the internal one: `fill_buf`, then nothing is taken
    have hc : ¬ r.cap ≤ 0 := by have := h.2; omega
    unfold BufR.read
    simp only [hc, and_false, if_false]
    have hf := fillBuf_spec r h
    rcases hfb : r.fillBuf with ⟨res, r'⟩
    rw [hfb] at hf
    simp only at hf
    obtain ⟨hok, -, -, hm⟩ := hf
    rcases hfl : r.flat with _ | ⟨(b | k | _), rest⟩ <;> rw [hfl] at hm <;> simp only at hm ⊢
    · rw [hm.1]; exact ⟨hok, rfl, hm.2.2⟩
    · rw [hm.1]
      exact ⟨hok, [], rfl, by simp, by simp, by simpa [bytesI, BufR.consume] using hm.2.2⟩
    · rw [hm.1]; exact ⟨hok, rfl, hm.2.1⟩
    · rw [hm.1]; exact ⟨hok, rfl, hm.2⟩
  | succ n =>
    obtain ⟨h1, -, -, hm⟩ := read_spec_strong r (n + 1) h (by omega)
    refine ⟨h1, ?_⟩
    rcases hfl : r.flat with _ | ⟨(b | k | _), rest⟩ <;> rw [hfl] at hm <;> simp only at hm ⊢
    · exact hm
    · obtain ⟨bs, hb1, hb2, hb3, hb4⟩ := hm
      exact ⟨bs, hb1, fun _ => hb2, hb3, hb4⟩
    · exact ⟨hm.1, hm.2.1⟩
    · exact hm

/-! ### one read never returns more than asked for (no invariant needed) -/

theorem Transport.read_le (t : Transport) (n : Nat) (bs : Bytes) :
    (t.read n).1 = .ok bs → bs.length ≤ n := by
  cases t with
  | nil => intro h; simp [Transport.read] at h; subst h; simp
  | cons s t =>
    cases s with
    | data d =>
      simp only [Transport.read]
      by_cases hl : d.length ≤ n
      · simp only [hl, if_true, RR.ok.injEq]; intro h; subst h; exact hl
      · simp only [hl, if_false, RR.ok.injEq]; intro h; subst h; simp; omega
    | err k => intro h; simp [Transport.read] at h
    | pause => intro h; simp [Transport.read] at h

/-- `BufReader::read(&mut buf[..n])` hands out at most `n` bytes. -/
theorem read_le (r : BufR) (n : Nat) (bs : Bytes) : (r.read n).1 = .ok bs → bs.length ≤ n := by
  unfold BufR.read
  by_cases hby : r.buf = [] ∧ r.cap ≤ n
  · simp only [hby, and_self, if_true]
    exact Transport.read_le r.inner n bs
  · simp only [hby, if_false]
    rcases r.fillBuf with ⟨res, r'⟩
    cases res with
    | ok u => simp only [RR.ok.injEq]; intro h; subst h; simp; omega
    | err e => intro h; simp at h
    | blocked => intro h; simp at h
    | panic => intro h; simp at h

/-! ### read_exact -/

theorem readExactLoop_refines (fuel : Nat) : ∀ (r : BufR) (n : Nat) (acc : Bytes),
    r.Ok → n + r.inner.length ≤ fuel →
    (BufR.readExactLoop fuel r n acc).1 = (specExact n r.flat).1.map (acc ++ ·) ∧
    (BufR.readExactLoop fuel r n acc).2.flat = (specExact n r.flat).2 ∧
    (BufR.readExactLoop fuel r n acc).2.Ok := by
  induction fuel with
  | zero =>
    intro r n acc h hf
    have : n = 0 := by omega
    subst this
    simp [BufR.readExactLoop, h]
  | succ fuel ih =>
    intro r n acc h hf
    cases n with
    | zero => simp [BufR.readExactLoop, h]
    | succ n' =>
      have hs := read_spec_strong r (n'+1) h (by omega)
      rcases hrd : r.read (n'+1) with ⟨res, r'⟩
      rw [hrd] at hs
      simp only at hs
      obtain ⟨hok, -, hlen, hm⟩ := hs
      simp only [BufR.readExactLoop, Nat.succ_ne_zero, if_false, hrd]
      rcases hfl : r.flat with _ | ⟨(b | k | _), rest⟩ <;> rw [hfl] at hm <;> simp only at hm
      · obtain ⟨rfl, hf'⟩ := hm
        simp [specExact, hf', hok]
      · obtain ⟨bs, rfl, hne, hle, hf'⟩ := hm
        cases bs with
        | nil => exact absurd rfl hne
        | cons c bs =>
          simp only
          have := ih r' (n' + 1 - (c :: bs).length) (acc ++ c :: bs) hok
            (by simp at hle ⊢; omega)
          rw [← hf', specExact_bytes (c :: bs) (n'+1) r'.flat hle]
          simp only [RR.map_map]
          refine ⟨?_, this.2⟩
          rw [this.1]
          congr 1; funext v; simp
      · obtain ⟨rfl, hf', hlt⟩ := hm
        cases k with
        | zero =>
          -- Interrupted: retried
          have := ih r' (n'+1) acc hok (by omega)
          rw [hf'] at this
          simp only [specExact, if_true]
          exact this
        | succ k' => simp [specExact, hf', hok]
      · obtain ⟨rfl, hf'⟩ := hm
        simp [specExact, hf', hok]

theorem readExact_refines (r : BufR) (n : Nat) (h : r.Ok) :
    (r.readExact n).1 = (specExact n r.flat).1 ∧
    (r.readExact n).2.flat = (specExact n r.flat).2 ∧
    (r.readExact n).2.Ok := by
  unfold BufR.readExact
  by_cases hle : n ≤ r.buf.length
  · simp only [hle, if_true]
    rw [show r.flat = r.buf.map .byte ++ flatT r.inner from rfl, specExact_take r.buf n _ hle]
    exact ⟨rfl, rfl, h⟩
  · simp only [hle, if_false]
    have := readExactLoop_refines (r.exactFuel n) r n [] h (by simp [BufR.exactFuel]; omega)
    refine ⟨?_, this.2⟩
    rw [this.1]
    simp

/-! ### read_until -/

theorem readUntilLoop_refines (fuel : Nat) : ∀ (r : BufR) (limit : Nat) (acc : Bytes),
    r.Ok → limit + r.inner.length + 1 ≤ fuel →
    (BufR.readUntilLoop fuel r limit acc).1 = (specUntil limit r.flat acc).1 ∧
    (BufR.readUntilLoop fuel r limit acc).2.flat = (specUntil limit r.flat acc).2 ∧
    (BufR.readUntilLoop fuel r limit acc).2.Ok := by
  induction fuel with
  | zero => intro r limit acc h hf; omega
  | succ fuel ih =>
    intro r limit acc h hf
    cases limit with
    | zero => simp [BufR.readUntilLoop, h]
    | succ l' =>
      have hs := fillBuf_spec r h
      rcases hfb : r.fillBuf with ⟨res, r'⟩
      rw [hfb] at hs
      simp only at hs
      obtain ⟨hok, -, hlen, hm⟩ := hs
      simp only [BufR.readUntilLoop, Nat.succ_ne_zero, if_false, hfb]
      rcases hfl : r.flat with _ | ⟨(b | k | _), rest⟩ <;> rw [hfl] at hm <;> simp only at hm
      · obtain ⟨rfl, hb', hf'⟩ := hm
        simp [specUntil, hb', hf', hok]
      · obtain ⟨rfl, hb', hf'⟩ := hm
        simp only
        have hav : r'.buf.take (l'+1) ≠ [] := take_ne_nil hb' (Nat.succ_ne_zero l')
        simp only [hav, if_false]
        rw [← hf']
        cases hix : (r'.buf.take (l'+1)).idxOf? 10 with
        | some i =>
          rw [show r'.flat = r'.buf.map .byte ++ flatT r'.inner from rfl,
            specUntil_found r'.buf (l'+1) i acc _ hix]
          exact ⟨rfl, rfl, hok⟩
        | none =>
          simp only
          have hpos : 0 < (r'.buf.take (l'+1)).length := List.length_pos_iff.mpr hav
          have := ih (r'.consume (r'.buf.take (l'+1)).length)
            (l' + 1 - (r'.buf.take (l'+1)).length) (acc ++ r'.buf.take (l'+1))
            (by simpa [BufR.consume, BufR.Ok] using hok)
            (by simp only [BufR.consume]; omega)
          rw [show r'.flat = r'.buf.map .byte ++ flatT r'.inner from rfl,
            specUntil_none r'.buf (l'+1) acc _ hix]
          exact this
      · obtain ⟨rfl, hf', hlt⟩ := hm
        cases k with
        | zero =>
          have := ih r' (l'+1) acc hok (by omega)
          rw [hf'] at this
          simp only [specUntil, if_true]
          exact this
        | succ k' => simp [specUntil, hf', hok]
      · obtain ⟨rfl, hf'⟩ := hm
        simp [specUntil, hf', hok]

theorem readUntil_refines (r : BufR) (limit : Nat) (h : r.Ok) :
    (r.readUntil limit).1 = (specUntil limit r.flat []).1 ∧
    (r.readUntil limit).2.flat = (specUntil limit r.flat []).2 ∧
    (r.readUntil limit).2.Ok := by
  unfold BufR.readUntil
  exact readUntilLoop_refines (r.untilFuel limit) r limit [] h (by simp [BufR.untilFuel])

end Atto
