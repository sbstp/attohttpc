/-
  Atto/Lemmas/HeadFlat.lean — `parse_response_head` on the flat item stream.
  * no panic on arbitrary input (`head_no_panic`);
  * the line readers on a rendered line (`readLineStrict_first_crlf`);
  * the header loop on rendered lines is a pure function of the lines (`fieldStep`,
    `fieldLoop`, `parseHeadersLoop_lines`), and so is the whole head parser after an accepted status line
    (`head_lines_ok`, `head_lines_err`);
  * from these: round trip of a well-formed head (`head_roundtrip`), where the parser stops on too
    many fields (`head_too_many`) and on a refused line (`head_fields_then_bad`).
-/
import Atto.Model.Head
import Atto.Spec.HeadSpec
import Atto.Lemmas.FlatPrims
namespace Atto

@[simp] theorem flatSrc_size (is : List Item) : flatSrc.size is = is.length := rfl

def lfToSp (b : UInt8) : UInt8 := if b = 10 then 32 else b

theorem FieldS.seen_eq (f : FieldS) : f.seen = (lowerBytes f.name, f.value.map lfToSp) := rfl

/-! ### one field line, one turn of the header loop -/

/-- What one field line does to the header loop: stop with an error, or go on with a header map
    (the counter goes up either way). -/
def fieldStep (mh : Nat) (l : Bytes) (cnt : Nat) (hs : Headers) : Except E Headers :=
  if cnt = mh then .error .header else
  match parseFieldLine l with
  | .bad e => .error e
  | .skip => .ok hs
  | .field n v => if Headers.full hs n then .error .header else .ok (hs.append n v)

/-- the header loop unfolded once, over any source -/
theorem parseHeadersLoop_succ (S : Src σ) (fuel : Nat) (r : σ) (mh cnt : Nat) (hs : Headers) :
    parseHeadersLoop S (fuel + 1) r mh cnt hs =
      match readLineStrict S r Consts.maxLineLen with
      | (.ok line, r') =>
        if line = [] then (.ok hs, r')
        else match fieldStep mh line cnt hs with
          | .error e => (.err e, r')
          | .ok hs' => parseHeadersLoop S fuel r' mh (cnt + 1) hs'
      | (.err e, r') => (.err e, r')
      | (.blocked, r') => (.blocked, r')
      | (.panic, r') => (.panic, r') := by
  rw [parseHeadersLoop]
  rcases readLineStrict S r Consts.maxLineLen with ⟨res, r'⟩
  cases res with
  | ok line =>
    simp only [fieldStep]
    by_cases hl : line = []
    · simp only [hl, if_true]
    · simp only [hl, if_false]
      by_cases he : cnt = mh
      · simp only [he, if_true]
      · simp only [he, if_false]
        cases parseFieldLine line with
        | bad e => rfl
        | skip => rfl
        | field n v => simp only; split <;> rfl
  | err e => rfl
  | blocked => rfl
  | panic => rfl

/-! ### no panic on any stream: every successful line shortens it, so the fuel suffices -/

theorem readLineStrictLoop_flat_shrinks (fuel : Nat) :
    ∀ (is : List Item) (limit : Nat) (buf : Bytes) (res : RR Bytes) (is' : List Item),
    limit < fuel → readLineStrictLoop flatSrc fuel is limit buf = (res, is') →
    res ≠ .panic ∧ ∀ line, res = .ok line → is'.length < is.length := by
  induction fuel with
  | zero => intro is limit buf res is' h; omega
  | succ fuel ih =>
    intro is limit buf res is' hf h
    have h2 := specUntil_ne_panic limit is []
    have h3 := fun bs l' => specUntil_ok (l := limit) (is := is) (bs := bs) (l' := l')
    rw [readLineStrictLoop, flatSrc_readUntil] at h
    generalize specUntil limit is [] = p at h h2 h3
    obtain ⟨r, is1⟩ := p
    cases r with
    | ok v =>
      obtain ⟨bs, limit'⟩ := v
      obtain ⟨e2, ha⟩ := h3 bs limit' rfl
      have e3 := ha.length_le
      simp only at h e3
      -- an empty read or a missing LF ends in an error; otherwise at least one byte was read
      split at h
      · cases h; simp
      · split at h
        · cases h; simp
        · rename_i hk _
          split at h
          · cases h
            exact ⟨by simp, fun _ _ => by omega⟩
          · obtain ⟨i1, i2⟩ := ih is1 limit' (buf ++ bs) res is' (by omega) h
            exact ⟨i1, fun line hl => by have := i2 line hl; omega⟩
    | err e => cases h; simp
    | blocked => cases h; simp
    | panic => exact absurd rfl h2

theorem parseHeadersLoop_flat_no_panic (fuel : Nat) : ∀ (is : List Item) (mh cnt : Nat) (hs : Headers),
    is.length < fuel → (parseHeadersLoop flatSrc fuel is mh cnt hs).1 ≠ .panic := by
  induction fuel with
  | zero => intro is mh cnt hs h; omega
  | succ fuel ih =>
    intro is mh cnt hs hf
    rw [parseHeadersLoop_succ]
    rcases hp : readLineStrict flatSrc is Consts.maxLineLen with ⟨r, is'⟩
    obtain ⟨h1, h2⟩ := readLineStrictLoop_flat_shrinks _ is _ [] r is' (Nat.lt_succ_self _) hp
    cases r with
    | ok line =>
      have hlt := h2 line rfl
      simp only
      split
      · simp
      · cases fieldStep mh line cnt hs with
        | error e => simp
        | ok hs' => exact ih _ _ _ _ (by omega)
    | err e => simp
    | blocked => simp
    | panic => exact absurd rfl h1

/-- `parse_response_head` never panics, whatever the input stream. -/
theorem head_no_panic (is : List Item) (mh : Nat) : (parseResponseHead flatSrc is mh).1 ≠ .panic := by
  unfold parseResponseHead
  obtain ⟨_, -, -, h1⟩ := readLine_flat_char is Consts.maxLineLen
  generalize readLine flatSrc is Consts.maxLineLen = p at h1
  obtain ⟨r, is'⟩ := p
  cases r with
  | ok line =>
    simp only
    cases parseStatusLine line with
    | error e => simp
    | ok st =>
      simp only
      have := parseHeadersLoop_flat_no_panic (headFuel flatSrc is') is' mh 0 [] (by simp [headFuel])
      generalize parseHeadersLoop flatSrc (headFuel flatSrc is') is' mh 0 [] = q at this
      obtain ⟨r2, is2⟩ := q
      cases r2 <;> simp_all
  | err e => simp
  | blocked => simp
  | panic => exact absurd rfl h1

/-! ### `read_line_strict` returns exactly the bytes before the FIRST CRLF

  A line may contain bare LFs (kept) and bare CRs (a refused field value may: a bare CR is not a
  value byte). What the reader needs is only that the CRLF which ends the line is the first one:
  `¬ [13, 10] <:+: ln ++ [13]` (no CR LF inside `ln`, and `ln` does not end in a CR … followed by the
  LF of the terminator; a CR before the terminating CR is fine). -/

theorem readLineStrictLoop_first_crlf (fuel : Nat) : ∀ (ln buf : Bytes) (limit : Nat) (rest : List Item),
    ¬ [13, 10] <:+: ln ++ [13] → ln.length + 2 ≤ limit → ln.length < fuel →
    readLineStrictLoop flatSrc fuel (bytesI (ln ++ [13, 10]) ++ rest) limit buf =
      (.ok (buf ++ ln), rest) := by
  induction fuel with
  | zero => intro ln buf limit rest _ _ h; omega
  | succ fuel ih =>
    intro ln buf limit rest hcr hlim hfuel
    by_cases h10 : (10 : UInt8) ∈ ln
    · obtain ⟨pre, post, e, hpre⟩ := List.eq_append_cons_of_mem h10
      subst e
      have hs : bytesI (pre ++ 10 :: post ++ [13, 10]) ++ rest
          = bytesI pre ++ .byte 10 :: (bytesI (post ++ [13, 10]) ++ rest) := by simp
      simp only [List.length_append, List.length_cons] at hlim hfuel
      unfold readLineStrictLoop
      rw [flatSrc_readUntil, hs, specUntil_run pre limit [] _ hpre (by omega)]
      have hg : ¬ (1 ≤ pre.length ∧
          (pre.getLast? = some 13 ∨ pre = [] ∧ List.getLast? buf = some 13)) := by
        intro ⟨hk, hl⟩
        rcases hl with hl | ⟨hl, _⟩
        · obtain ⟨ys, rfl⟩ := List.getLast?_eq_some_iff.mp hl
          exact hcr ⟨ys, post ++ [13], by simp⟩
        · simp [hl] at hk
      have hcr' : ¬ [13, 10] <:+: post ++ [13] := by
        intro ⟨s, u, e⟩
        exact hcr ⟨pre ++ 10 :: s, u, by simp [← e]⟩
      have ih' := ih post (buf ++ (pre ++ [10])) (limit - (pre.length + 1)) rest hcr' (by omega)
        (by omega)
      simp only [bytesI_append, bytesI_cons, bytesI_nil, List.append_assoc, List.cons_append,
        List.nil_append] at ih'
      simp [hg, ih']
    · have hpre : (10 : UInt8) ∉ ln ++ [13] := by simp [h10]
      have hs : bytesI (ln ++ [13, 10]) ++ rest = bytesI (ln ++ [13]) ++ .byte 10 :: rest := by simp
      unfold readLineStrictLoop
      rw [flatSrc_readUntil, hs, specUntil_run (ln ++ [13]) limit [] _ hpre (by simp; omega)]
      simp

theorem readLineStrict_first_crlf (ln : Bytes) (limit : Nat) (rest : List Item)
    (hcr : ¬ [13, 10] <:+: ln ++ [13]) (hlim : ln.length + 2 ≤ limit) :
    readLineStrict flatSrc (bytesI (ln ++ [13, 10]) ++ rest) limit = (.ok ln, rest) := by
  unfold readLineStrict
  rw [readLineStrictLoop_first_crlf (limit + 1) ln [] limit rest hcr hlim (by omega)]
  simp

/-- no CR in the line suffices for "the first CRLF" … -/
theorem first_crlf_of_no_cr (ln : Bytes) (h : (13 : UInt8) ∉ ln) : ¬ [13, 10] <:+: ln ++ [13] := by
  intro ⟨s, u, e⟩
  have hl := congrArg List.length e
  simp only [List.length_append, List.length_cons, List.length_nil] at hl
  have hg := congrArg (·[s.length]?) e
  simp only [List.append_assoc, List.getElem?_append_right (Nat.le_refl _), Nat.sub_self,
    List.cons_append, List.getElem?_cons_zero] at hg
  rw [List.getElem?_append_left (by omega)] at hg
  exact h (List.mem_of_getElem? hg.symm)

/-- … and so does no LF -/
theorem first_crlf_of_no_lf (ln : Bytes) (h : (10 : UInt8) ∉ ln) : ¬ [13, 10] <:+: ln ++ [13] := by
  intro ⟨s, u, e⟩
  have h10 : (10 : UInt8) ∈ ln ++ [13] := by rw [← e]; simp
  simp only [List.mem_append, List.mem_singleton] at h10
  rcases h10 with h10 | h10
  · exact h h10
  · cases h10

/-! ### one field line -/

/-- turning LF into SP produces a SP only from a SP or an LF (used at both ends of a value) -/
theorem map_lfToSp_ne_sp {o : Option UInt8} (h32 : o ≠ some 32) (h10 : o ≠ some 10) :
    o.map lfToSp ≠ some 32 := by
  cases o with
  | none => simp
  | some a =>
    have a32 : a ≠ 32 := fun e => h32 (e ▸ rfl)
    have a10 : a ≠ 10 := fun e => h10 (e ▸ rfl)
    simp [lfToSp, a10, a32]

theorem parseFieldLine_wf (f : FieldS) (hwf : f.WF Consts.maxLineLen) :
    parseFieldLine f.line = .field (lowerBytes f.name) (f.value.map lfToSp) := by
  obtain ⟨hne, htc, hvb, hh32, hh10, hl32, hl10, hlen⟩ := hwf
  have h58 : (58 : UInt8) ∉ f.name := by intro h; have := htc _ h; revert this; decide
  have hn32h : f.name.head? ≠ some 32 := by
    intro h; have := htc _ (List.mem_of_head? h); revert this; decide
  have hn32l : f.name.getLast? ≠ some 32 := by
    intro h; have := htc _ (List.mem_of_getLast? h); revert this; decide
  have hline : f.line = f.name ++ 58 :: (spaces f.padL ++ f.value ++ spaces f.padR) := by
    simp [FieldS.line]
  have hidx := idxOf?_append_cons 58 (spaces f.padL ++ f.value ++ spaces f.padR) f.name h58
  have hname : trimByte 32 f.name = f.name := by
    simpa using trimByte_padded 32 0 0 f.name hn32h hn32l
  have hval : trimByte 32 (replaceByte 10 32 (spaces f.padL ++ f.value ++ spaces f.padR))
      = f.value.map lfToSp := by
    have e : replaceByte 10 32 (spaces f.padL ++ f.value ++ spaces f.padR)
        = List.replicate f.padL 32 ++ f.value.map lfToSp ++ List.replicate f.padR 32 := by
      simp [replaceByte, spaces, lfToSp]
    rw [e]
    apply trimByte_padded
    · rw [List.head?_map]; exact map_lfToSp_ne_sp hh32 hh10
    · rw [List.getLast?_map]; exact map_lfToSp_ne_sp hl32 hl10
  have hlen' : f.name.length ≤ 65535 := by
    have : f.name.length ≤ f.line.length := by simp only [FieldS.line, List.length_append]; omega
    have : Consts.maxLineLen ≤ 65536 := by decide
    omega
  have hhn : headerNameFromBytes f.name = some (lowerBytes f.name) := by
    unfold headerNameFromBytes
    rw [if_pos]
    refine ⟨hne, ?_, hlen'⟩
    simpa [List.all_eq_true] using htc
  have hvv : headerValueValid (f.value.map lfToSp) = true := by
    unfold headerValueValid
    simp only [List.all_map, List.all_eq_true, Function.comp]
    intro b hb
    rcases hvb b hb with h | h
    · have : b ≠ 10 := by intro e; subst e; revert h; decide
      simp [lfToSp, this, h]
    · subst h; decide
  unfold parseFieldLine
  rw [hline, hidx]
  simp only [List.take_left', hname, hhn, drop_length_succ, hval, hvv]
  simp

theorem FieldS.line_no_cr (f : FieldS) (hwf : f.WF Consts.maxLineLen) : (13 : UInt8) ∉ f.line := by
  obtain ⟨_, htc, hvb, _⟩ := hwf
  simp only [FieldS.line, spaces, List.mem_append, List.mem_replicate, List.mem_singleton, not_or]
  refine ⟨⟨⟨⟨?_, by decide⟩, by simp⟩, ?_⟩, by simp⟩
  · intro h; have := htc _ h; revert this; decide
  · intro h
    rcases hvb _ h with h' | h'
    · revert h'; decide
    · revert h'; decide

/-! ### the header loop on rendered field lines -/

def renderFields (fs : List FieldS) : Bytes := fs.flatMap (fun f => f.line ++ [13, 10])

/-- lines as the peer writes them: each non-empty, without CR or LF inside, short enough for the line limit -/
def FieldLinesOK (lines : List Bytes) : Prop :=
  ∀ l ∈ lines, l ≠ [] ∧ (10 : UInt8) ∉ l ∧ (13 : UInt8) ∉ l ∧ l.length + 2 ≤ Consts.maxLineLen

def renderLines (lines : List Bytes) : Bytes := lines.flatMap (· ++ [13, 10])

@[simp] theorem renderLines_nil : renderLines [] = [] := rfl
@[simp] theorem renderLines_cons (l : Bytes) (ls : List Bytes) :
    renderLines (l :: ls) = l ++ [13, 10] ++ renderLines ls := by
  simp [renderLines]

theorem renderLines_length (ls : List Bytes) : ls.length ≤ (renderLines ls).length := by
  induction ls with
  | nil => simp
  | cons l ls ih =>
    simp only [renderLines_cons, List.length_append, List.length_cons]
    omega

theorem renderFields_eq (fs : List FieldS) : renderFields fs = renderLines (fs.map FieldS.line) := by
  simp [renderFields, renderLines, List.flatMap_map]

/-- what `read_line_strict` hands back whole: the CRLF that ends `l` is the first one, and the line
    fits the limit of the head parser -/
def Whole (l : Bytes) : Prop := ¬ [13, 10] <:+: l ++ [13] ∧ l.length + 2 ≤ Consts.maxLineLen

theorem Whole.of_no_cr {l : Bytes} (h : (13 : UInt8) ∉ l) (hl : l.length + 2 ≤ Consts.maxLineLen) :
    Whole l := ⟨first_crlf_of_no_cr l h, hl⟩

theorem FieldLinesOK.whole {lines : List Bytes} (h : FieldLinesOK lines) :
    ∀ l ∈ lines, l ≠ [] ∧ Whole l :=
  fun l hl => ⟨(h l hl).1, .of_no_cr (h l hl).2.2.1 (h l hl).2.2.2⟩

theorem parseHeadersLoop_blank {fuel : Nat} (hf : fuel ≠ 0) (rest : List Item) (mh cnt : Nat)
    (hs : Headers) :
    parseHeadersLoop flatSrc fuel (bytesI [13, 10] ++ rest) mh cnt hs = (.ok hs, rest) := by
  obtain ⟨fuel, rfl⟩ := Nat.exists_eq_succ_of_ne_zero hf
  have := readLineStrict_first_crlf [] Consts.maxLineLen rest (by decide) (by decide)
  rw [List.nil_append] at this
  rw [parseHeadersLoop, this]
  rfl

/-- one iteration of the header loop on a non-empty line -/
theorem parseHeadersLoop_line {l : Bytes} (hne : l ≠ []) (hw : Whole l) (fuel : Nat)
    (rest : List Item) (mh cnt : Nat) (hs : Headers) :
    parseHeadersLoop flatSrc (fuel + 1) (bytesI (l ++ [13, 10]) ++ rest) mh cnt hs =
      match fieldStep mh l cnt hs with
      | .error e => (.err e, rest)
      | .ok hs' => parseHeadersLoop flatSrc fuel rest mh (cnt + 1) hs' := by
  rw [parseHeadersLoop_succ, readLineStrict_first_crlf l _ rest hw.1 hw.2]
  simp only [hne, if_false]

/-- The header loop as a function of the field lines it is given: the counter and the header map
    after the last line, or the error and the lines that were not read. -/
def fieldLoop (mh : Nat) : List Bytes → Nat → Headers → Except (E × List Bytes) (Nat × Headers)
  | [], cnt, hs => .ok (cnt, hs)
  | l :: ls, cnt, hs =>
    match fieldStep mh l cnt hs with
    | .error e => .error (e, ls)
    | .ok hs' => fieldLoop mh ls (cnt + 1) hs'

theorem parseHeadersLoop_lines (mh : Nat) (rest : List Item) (lines : List Bytes) :
    ∀ (fuel cnt : Nat) (hs : Headers), (∀ l ∈ lines, l ≠ [] ∧ Whole l) → lines.length ≤ fuel →
    parseHeadersLoop flatSrc fuel (bytesI (renderLines lines) ++ rest) mh cnt hs =
      match fieldLoop mh lines cnt hs with
      | .error (e, ls) => (.err e, bytesI (renderLines ls) ++ rest)
      | .ok (cnt', hs') => parseHeadersLoop flatSrc (fuel - lines.length) rest mh cnt' hs' := by
  induction lines with
  | nil => intro fuel cnt hs _ _; simp [fieldLoop]
  | cons l ls ih =>
    intro fuel cnt hs hok hf
    obtain ⟨fuel, rfl⟩ : ∃ f, fuel = f + 1 := ⟨fuel - 1, by simp at hf; omega⟩
    have hl := hok l (by simp)
    rw [renderLines_cons, bytesI_append, List.append_assoc,
      parseHeadersLoop_line hl.1 hl.2, fieldLoop]
    simp only [List.length_cons, Nat.add_sub_add_right]
    cases fieldStep mh l cnt hs with
    | error e => rfl
    | ok hs' => exact ih fuel _ hs' (fun x hx => hok x (by simp [hx])) (by simpa using hf)

/-! ### `fieldLoop` -/

theorem fieldLoop_append (mh : Nat) (a b : List Bytes) : ∀ (cnt : Nat) (hs : Headers),
    fieldLoop mh (a ++ b) cnt hs =
      match fieldLoop mh a cnt hs with
      | .error (e, ls) => .error (e, ls ++ b)
      | .ok (cnt', hs') => fieldLoop mh b cnt' hs' := by
  induction a with
  | nil => intro cnt hs; rfl
  | cons l ls ih =>
    intro cnt hs
    simp only [List.cons_append, fieldLoop]
    cases fieldStep mh l cnt hs with
    | error e => rfl
    | ok hs' => exact ih _ _

/-- a well-formed field below both limits is stored -/
theorem fieldStep_wf {mh cnt : Nat} {hs : Headers} (f : FieldS) (hwf : f.WF Consts.maxLineLen)
    (hmh : cnt < mh) (hcap : hs.length < Headers.maxSize) :
    fieldStep mh f.line cnt hs = .ok (hs ++ [f.seen]) := by
  rw [fieldStep, if_neg (by omega), parseFieldLine_wf f hwf]
  simp [Headers.full, hcap, Headers.append, FieldS.seen_eq]

/-- well-formed fields below both limits are all stored -/
theorem fieldLoop_fields (mh : Nat) (fields : List FieldS) : ∀ (cnt : Nat) (hs : Headers),
    (∀ f ∈ fields, f.WF Consts.maxLineLen) → cnt + fields.length ≤ mh →
    hs.length + fields.length ≤ Headers.maxSize →
    fieldLoop mh (fields.map FieldS.line) cnt hs =
      .ok (cnt + fields.length, hs ++ fields.map FieldS.seen) := by
  induction fields with
  | nil => intro cnt hs _ _ _; simp [fieldLoop]
  | cons f fs ih =>
    intro cnt hs hwf hmh hcap
    simp only [List.length_cons] at hmh hcap
    have hst : fieldStep mh f.line cnt hs = .ok (hs ++ [f.seen]) :=
      fieldStep_wf f (hwf f (by simp)) (by omega) (by omega)
    simp only [List.map_cons, fieldLoop, hst]
    rw [ih _ _ (fun g hg => hwf g (by simp [hg])) (by omega) (by simp; omega)]
    simp; omega

/-- Every line counts, stored or not: more lines than the counter allows end in an error after at
    most `mh - cnt + 1` of them. -/
theorem fieldLoop_bounded (mh : Nat) (lines : List Bytes) : ∀ (cnt : Nat) (hs : Headers),
    cnt ≤ mh → mh - cnt < lines.length →
    ∃ e k, k ≤ mh - cnt ∧ fieldLoop mh lines cnt hs = .error (e, lines.drop (k + 1)) := by
  induction lines with
  | nil => intro cnt hs _ h; simp at h
  | cons l ls ih =>
    intro cnt hs hc hn
    simp only [List.length_cons] at hn
    rw [fieldLoop]
    cases hst : fieldStep mh l cnt hs with
    | error e => exact ⟨e, 0, Nat.zero_le _, rfl⟩
    | ok hs' =>
      have he : cnt ≠ mh := fun he => by simp [fieldStep, he] at hst
      obtain ⟨e, k, hk, hr⟩ := ih (cnt + 1) hs' (by omega) (by omega)
      exact ⟨e, k + 1, by omega, by simpa using hr⟩

/-! ### the status line -/

theorem splitOnByte_append_sep (sep : UInt8) (v xs : Bytes) (h : sep ∉ v) :
    splitOnByte sep (v ++ sep :: xs) = v :: splitOnByte sep xs := by
  induction v with
  | nil => simp [splitOnByte]
  | cons b v ih =>
    simp only [List.mem_cons, not_or] at h
    simp [splitOnByte, Ne.symm h.1, ih h.2]

theorem splitOnByte_no_sep (sep : UInt8) (v : Bytes) (h : sep ∉ v) : splitOnByte sep v = [v] := by
  induction v with
  | nil => simp [splitOnByte]
  | cons b v ih =>
    simp only [List.mem_cons, not_or] at h
    simp [splitOnByte, Ne.symm h.1, ih h.2]

theorem splitSpaces_spaces (n : Nat) (ys : Bytes) : splitSpaces (spaces n ++ ys) = splitSpaces ys := by
  induction n with
  | zero => simp [spaces]
  | succ n ih =>
    simp only [splitSpaces, spaces] at ih ⊢
    simpa [List.replicate_succ, splitOnByte] using ih

theorem splitSpaces_word_sep (v xs : Bytes) (hne : v ≠ []) (h : (32 : UInt8) ∉ v) :
    splitSpaces (v ++ 32 :: xs) = v :: splitSpaces xs := by
  simp [splitSpaces, splitOnByte_append_sep 32 v xs h, hne]

theorem splitSpaces_word (v : Bytes) (hne : v ≠ []) (h : (32 : UInt8) ∉ v) :
    splitSpaces v = [v] := by
  simp [splitSpaces, splitOnByte_no_sep 32 v h, hne]

/-- `48 + d` for a decimal digit `d` is an ASCII digit, with value `d` -/
theorem digit_byte {d : Nat} (h : d ≤ 9) :
    isDigit (UInt8.ofNat (48 + d)) = true ∧ (UInt8.ofNat (48 + d)).toNat = 48 + d := by
  have e : (UInt8.ofNat (48 + d)).toNat = 48 + d := by rw [UInt8.toNat_ofNat']; omega
  refine ⟨?_, e⟩
  simp only [isDigit, Bool.and_eq_true, decide_eq_true_eq, UInt8.le_iff_toNat_le, e]
  exact ⟨Nat.le_add_right 48 d, by simp; omega⟩

theorem render3_facts (c : Nat) (hhi : c < 1000) (hlo : 100 ≤ c) :
    (32 : UInt8) ∉ render3 c ∧ (10 : UInt8) ∉ render3 c ∧ statusFromBytes (render3 c) = some c := by
  obtain ⟨d2, e2⟩ := digit_byte (show c / 100 ≤ 9 by omega)
  obtain ⟨d1, e1⟩ := digit_byte (show c / 10 % 10 ≤ 9 by omega)
  obtain ⟨d0, e0⟩ := digit_byte (show c % 10 ≤ 9 by omega)
  have hd : ∀ b ∈ render3 c, isDigit b = true := by
    simp only [render3, List.mem_cons, List.not_mem_nil, or_false]
    rintro b (rfl | rfl | rfl) <;> assumption
  refine ⟨fun h => absurd (hd _ h) (by decide), fun h => absurd (hd _ h) (by decide), ?_⟩
  have hne : (UInt8.ofNat (48 + c / 100) != 48) = true := by
    simp only [bne_iff_ne, ne_eq, ← UInt8.toNat_inj, e2]
    have : UInt8.toNat 48 = 48 := rfl
    omega
  simp only [render3, statusFromBytes, d2, d1, d0, e2, e1, e0, hne, Bool.and_self, if_true,
    Nat.add_sub_cancel_left, Option.some.injEq]
  omega

theorem render3_ne_nil (c : Nat) : render3 c ≠ [] := by simp [render3]

theorem parseStatusLine_wf (h : HeadS) (hwf : h.WF Consts.maxLineLen) :
    parseStatusLine h.statusLine = .ok h.code := by
  obtain ⟨hvne, hv32, _, hsp, hlo, hhi, _⟩ := hwf
  obtain ⟨hc32, _, hst⟩ := render3_facts h.code (by omega) hlo
  obtain ⟨n, hn⟩ : ∃ n, h.sp1 = n + 1 := ⟨h.sp1 - 1, by omega⟩
  have hsl : ∃ tl, splitSpaces h.statusLine = h.version :: render3 h.code :: tl := by
    unfold HeadS.statusLine
    rw [hn]
    have e : spaces (n + 1) = 32 :: spaces n := by simp [spaces, List.replicate_succ]
    rw [e]
    simp only [List.append_assoc, List.cons_append]
    rw [splitSpaces_word_sep _ _ hvne hv32, splitSpaces_spaces]
    split
    · exact ⟨[], by rw [List.append_nil, splitSpaces_word _ (render3_ne_nil _) hc32]⟩
    · exact ⟨_, by rw [splitSpaces_word_sep _ _ (render3_ne_nil _) hc32]⟩
  obtain ⟨tl, htl⟩ := hsl
  simp [parseStatusLine, htl, hst]

theorem HeadS.statusLine_no_lf (h : HeadS) (hwf : h.WF Consts.maxLineLen) :
    (10 : UInt8) ∉ h.statusLine := by
  obtain ⟨_, _, hv10, _, hlo, hhi, hr10, _⟩ := hwf
  obtain ⟨_, hc10, _⟩ := render3_facts h.code (by omega) hlo
  unfold HeadS.statusLine
  simp only [List.mem_append, not_or, spaces, List.mem_replicate]
  refine ⟨⟨⟨hv10, by simp⟩, hc10⟩, ?_⟩
  split
  · simp
  · simp [hr10]

theorem HeadS.render_eq (h : HeadS) :
    h.render = h.statusLine ++ [13, 10] ++ (renderFields h.fields ++ [13, 10]) := by
  simp [HeadS.render, renderFields]

/-! ### the head parser after an accepted status line -/

/-- a status line the head parser accepts with code `c` -/
def StatusOK (sl : Bytes) (c : Nat) : Prop :=
  (10 : UInt8) ∉ sl ∧ sl.length + 2 ≤ Consts.maxLineLen ∧ parseStatusLine sl = .ok c

theorem head_lines_err {sl : Bytes} {c : Nat} (hs : StatusOK sl c) {lines : List Bytes}
    (hok : ∀ l ∈ lines, l ≠ [] ∧ Whole l) (rest : List Item) {mh : Nat} {e : E} {ls : List Bytes}
    (h : fieldLoop mh lines 0 [] = .error (e, ls)) :
    parseResponseHead flatSrc (bytesI (sl ++ [13, 10] ++ renderLines lines) ++ rest) mh =
      (.err e, bytesI (renderLines ls) ++ rest) := by
  rw [bytesI_append, List.append_assoc, parseResponseHead, readLine_line _ hs.1 _ hs.2.1]
  simp only [hs.2.2]
  rw [parseHeadersLoop_lines mh rest lines _ _ _ hok
    (by have := renderLines_length lines; simp [headFuel]; omega), h]

theorem head_lines_ok {sl : Bytes} {c : Nat} (hs : StatusOK sl c) {lines : List Bytes}
    (hok : ∀ l ∈ lines, l ≠ [] ∧ Whole l) (rest : List Item) {mh cnt : Nat} {hd : Headers}
    (h : fieldLoop mh lines 0 [] = .ok (cnt, hd)) :
    parseResponseHead flatSrc (bytesI (sl ++ [13, 10] ++ (renderLines lines ++ [13, 10])) ++ rest) mh =
      (.ok (c, hd), rest) := by
  rw [bytesI_append, List.append_assoc, parseResponseHead, readLine_line _ hs.1 _ hs.2.1]
  simp only [hs.2.2]
  rw [bytesI_append, List.append_assoc, parseHeadersLoop_lines mh _ lines _ _ _ hok
    (by have := renderLines_length lines; simp [headFuel]; omega), h]
  have hf : headFuel flatSrc (bytesI (renderLines lines) ++ (bytesI [13, 10] ++ rest))
      - lines.length ≠ 0 := by
    have := renderLines_length lines
    simp only [headFuel, flatSrc_size, List.length_append, bytesI_length]
    omega
  simp only [parseHeadersLoop_blank hf]

/-! ### heads of the specification -/

theorem HeadS.WF.fields {h : HeadS} (hwf : h.WF Consts.maxLineLen) :
    ∀ f ∈ h.fields, f.WF Consts.maxLineLen := hwf.2.2.2.2.2.2.2.2.2

theorem HeadS.WF.status {h : HeadS} (hwf : h.WF Consts.maxLineLen) : StatusOK h.statusLine h.code :=
  ⟨h.statusLine_no_lf hwf, hwf.2.2.2.2.2.2.2.2.1, parseStatusLine_wf h hwf⟩

theorem HeadS.WF.lines {h : HeadS} (hwf : h.WF Consts.maxLineLen) :
    ∀ l ∈ h.fields.map FieldS.line, l ≠ [] ∧ Whole l := by
  intro l hl
  obtain ⟨f, hf, rfl⟩ := List.mem_map.mp hl
  have hfw := hwf.fields f hf
  exact ⟨by simp [FieldS.line], .of_no_cr (f.line_no_cr hfw) hfw.2.2.2.2.2.2.2⟩

/-- the status code and the header fields are reported exactly as sent; the body is untouched. -/
theorem head_roundtrip (h : HeadS) (hwf : h.WF Consts.maxLineLen) (rest : List Item) (mh : Nat)
    (hmh : h.fields.length ≤ mh) (hcap : h.fields.length ≤ Headers.maxSize) :
    parseResponseHead flatSrc (bytesI h.render ++ rest) mh = (.ok (h.code, h.seen), rest) := by
  rw [h.render_eq, renderFields_eq]
  exact head_lines_ok hwf.status hwf.lines rest
    (fieldLoop_fields mh h.fields 0 [] hwf.fields (by omega) (by simpa using hcap))

/-- With more than `mh` fields the head parser stops with `Header` right after the `(mh+1)`-th
    field line: the remaining field lines and everything behind them are not consumed. -/
theorem head_too_many (h : HeadS) (hwf : h.WF Consts.maxLineLen) (rest : List Item) (mh : Nat)
    (hmh : mh < h.fields.length) (hcap : mh ≤ Headers.maxSize) :
    parseResponseHead flatSrc (bytesI h.render ++ rest) mh =
      (.err .header, bytesI (renderFields (h.fields.drop (mh + 1)) ++ [13, 10]) ++ rest) := by
  have hsplit : h.fields.map FieldS.line = (h.fields.take mh).map FieldS.line ++
      h.fields[mh].line :: (h.fields.drop (mh + 1)).map FieldS.line := by
    rw [← List.map_cons, ← List.map_append, List.getElem_cons_drop, List.take_append_drop]
  have hlen : (h.fields.take mh).length = mh := by simp; omega
  -- the first `mh` fields are stored, the next line finds the counter at the limit
  have hloop : fieldLoop mh (h.fields.map FieldS.line) 0 [] =
      .error (.header, (h.fields.drop (mh + 1)).map FieldS.line) := by
    rw [hsplit, fieldLoop_append, fieldLoop_fields mh _ 0 []
      (fun f hf => hwf.fields f (List.mem_of_mem_take hf)) (by omega) (by simp; omega)]
    simp only [fieldLoop, fieldStep, hlen, Nat.zero_add, if_true]
  have := head_lines_err hwf.status hwf.lines (bytesI [13, 10] ++ rest) hloop
  simpa [h.render_eq, renderFields_eq] using this

/-- Well-formed field lines followed by ONE line that `parseFieldLine` refuses (no blank line is
    needed): the head parser stops with the error of that line, right after it. -/
theorem head_fields_then_bad (h : HeadS) (hwf : h.WF Consts.maxLineLen) (bad : Bytes) (e : E)
    (rest : List Item) (mh : Nat)
    (hmh : h.fields.length < mh) (hcap : h.fields.length ≤ Headers.maxSize)
    (hcr : ¬ [13, 10] <:+: bad ++ [13]) (hlen : bad.length + 2 ≤ Consts.maxLineLen) (hne : bad ≠ [])
    (hbad : parseFieldLine bad = .bad e) :
    parseResponseHead flatSrc
      (bytesI (h.statusLine ++ [13, 10] ++ renderFields h.fields ++ bad ++ [13, 10]) ++ rest) mh =
        (.err e, rest) := by
  have hloop : fieldLoop mh (h.fields.map FieldS.line ++ [bad]) 0 [] = .error (e, []) := by
    rw [fieldLoop_append, fieldLoop_fields mh _ 0 [] hwf.fields (by omega) (by simpa using hcap)]
    simp only [fieldLoop, fieldStep, hbad]
    rw [if_neg (by omega)]
  have hok : ∀ l ∈ h.fields.map FieldS.line ++ [bad], l ≠ [] ∧ Whole l := by
    intro l hl
    rcases List.mem_append.mp hl with hl | hl
    · exact hwf.lines l hl
    · rw [List.mem_singleton.mp hl]; exact ⟨hne, hcr, hlen⟩
  have := head_lines_err hwf.status hok rest hloop
  simpa [renderFields_eq, renderLines] using this

end Atto
