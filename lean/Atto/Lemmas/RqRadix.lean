import Atto.Spec.RequestSpec
import Atto.Model.Request
import Atto.Lemmas.Str
import Atto.Lemmas.RqLex

/-!
# Radix round trips: `hexLower` / `natDigits` against `rqParseHex` / `rqParseDec`

`hexLower n` and `natDigits n` are both `(Nat.toDigits base n).flatMap String.utf8EncodeChar`
(`rq_hexLower_eq`, `rq_natDigits_eq`).  The digit list unfolds one least-significant digit at a time
(`rq_digits_lt`, `rq_digits_ge`), each digit is a single byte `rq_digitByte d`, and the spec's
most-significant-first accumulator `rqRadixAux` splits over `++` (`rq_radixAux_append`).
-/

namespace Atto

/-! ### digit strings -/

/-- the bytes of `n` written in `base` (lower case), most significant digit first -/
def rq_digits (base n : Nat) : Bytes := (Nat.toDigits base n).flatMap String.utf8EncodeChar

theorem rq_hexLower_eq (n : Nat) : hexLower n = rq_digits 16 n := str_ofList _

theorem rq_natDigits_eq (n : Nat) : natDigits n = rq_digits 10 n := str_ofList _

/-- the byte of the digit `d < 16`: `'0'..'9'`, `'a'..'f'` -/
def rq_digitByte (d : Nat) : UInt8 := if d < 10 then UInt8.ofNat (48 + d) else UInt8.ofNat (87 + d)

theorem rq_encode_digit : ∀ d, d < 16 → String.utf8EncodeChar d.digitChar = [rq_digitByte d] := by
  decide +kernel

theorem rq_digits_lt {base n : Nat} (hb : base ≤ 16) (h : n < base) :
    rq_digits base n = [rq_digitByte n] := by
  unfold rq_digits
  rw [Nat.toDigits_of_lt_base h]
  simp [rq_encode_digit n (by omega)]

theorem rq_digits_ge {base n : Nat} (hb1 : 1 < base) (hb : base ≤ 16) (h : base ≤ n) :
    rq_digits base n = rq_digits base (n / base) ++ [rq_digitByte (n % base)] := by
  unfold rq_digits
  rw [Nat.toDigits_of_base_le hb1 h]
  have : n % base < base := Nat.mod_lt _ (by omega)
  simp [rq_encode_digit (n % base) (by omega)]

theorem rq_digits_ne_nil {base n : Nat} (hb1 : 1 < base) (hb : base ≤ 16) : rq_digits base n ≠ [] := by
  by_cases h : n < base
  · rw [rq_digits_lt hb h]; simp
  · rw [rq_digits_ge hb1 hb (by omega)]; simp

/-- every byte of a digit string is the byte of a digit below the base -/
theorem rq_digits_mem {base : Nat} (hb1 : 1 < base) (hb : base ≤ 16) (n : Nat) :
    ∀ b ∈ rq_digits base n, ∃ d, d < base ∧ b = rq_digitByte d := by
  induction n using Nat.strongRecOn with
  | _ n ih =>
    intro b hmem
    by_cases h : n < base
    · rw [rq_digits_lt hb h] at hmem
      exact ⟨n, h, by simpa using hmem⟩
    · rw [rq_digits_ge hb1 hb (by omega)] at hmem
      rcases List.mem_append.mp hmem with hm | hm
      · exact ih (n / base) (Nat.div_lt_self (by omega) hb1) b hm
      · exact ⟨n % base, Nat.mod_lt _ (by omega), by simpa using hm⟩

/-- a positive number has no leading zero digit -/
theorem rq_digits_head {base : Nat} (hb1 : 1 < base) (hb : base ≤ 16) (n : Nat) (hn : 1 ≤ n) :
    (rq_digits base n).head? ≠ some 48 := by
  induction n using Nat.strongRecOn with
  | _ n ih =>
    by_cases h : n < base
    · rw [rq_digits_lt hb h]
      have : ∀ d, d < 16 → 1 ≤ d → rq_digitByte d ≠ 48 := by decide +kernel
      simpa using this n (by omega) hn
    · rw [rq_digits_ge hb1 hb (by omega)]
      have hne := rq_digits_ne_nil (n := n / base) hb1 hb
      have hpos : 1 ≤ n / base := (Nat.le_div_iff_mul_le (by omega)).mpr (by omega)
      have := ih (n / base) (Nat.div_lt_self (by omega) hb1) hpos
      cases hl : rq_digits base (n / base) with
      | nil => exact absurd hl hne
      | cons x xs => rw [hl] at this; simpa using this

/-! ### the accumulator over `++` -/

theorem rq_radixAux_append (dv : UInt8 → Option Nat) (base : Nat) (l1 l2 : Bytes) (acc : Nat) :
    rqRadixAux dv base (l1 ++ l2) acc =
      (rqRadixAux dv base l1 acc).bind (fun a => rqRadixAux dv base l2 a) := by
  induction l1 generalizing acc with
  | nil => simp [rqRadixAux]
  | cons b bs ih =>
    simp only [List.cons_append, rqRadixAux]
    cases dv b with
    | none => simp
    | some d => simp [ih]

theorem rq_parseRadix_digits (dv : UInt8 → Option Nat) {base : Nat} (hb1 : 1 < base) (hb : base ≤ 16)
    (hdv : ∀ d, d < base → dv (rq_digitByte d) = some d) (n : Nat) :
    rqParseRadix dv base (rq_digits base n) = some n := by
  unfold rqParseRadix
  rw [if_neg (rq_digits_ne_nil hb1 hb)]
  induction n using Nat.strongRecOn with
  | _ n ih =>
    by_cases h : n < base
    · rw [rq_digits_lt hb h]
      simp [rqRadixAux, hdv n h]
    · rw [rq_digits_ge hb1 hb (by omega), rq_radixAux_append,
        ih (n / base) (Nat.div_lt_self (by omega) hb1)]
      simp only [Option.bind_some, rqRadixAux, hdv (n % base) (Nat.mod_lt _ (by omega))]
      congr 1
      rw [Nat.mul_comm]
      exact Nat.div_add_mod n base

/-! ### byte-level case analysis -/

theorem rq_isDigit_valueByte : ∀ b : UInt8, rqIsDigit b = true →
    isValueByte b = true ∧ b ≠ 32 ∧ b ≠ 9 ∧ b ≠ 13 ∧ b ≠ 10 := by
  apply rq_all_u8
  decide +kernel

/-! ### the theorems -/

theorem rq_hexLower_parse (n : Nat) : rqParseHex (hexLower n) = some n := by
  rw [rq_hexLower_eq]
  exact rq_parseRadix_digits rqHexVal? (by omega) (by omega) (by decide +kernel) n

theorem rq_natDigits_parse (n : Nat) : rqParseDec (natDigits n) = some n := by
  rw [rq_natDigits_eq]
  exact rq_parseRadix_digits rqDecVal? (by omega) (by omega) (by decide +kernel) n

theorem rq_hexLower_ne_nil (n : Nat) : hexLower n ≠ [] := by
  rw [rq_hexLower_eq]; exact rq_digits_ne_nil (by omega) (by omega)

theorem rq_natDigits_ne_nil (n : Nat) : natDigits n ≠ [] := by
  rw [rq_natDigits_eq]; exact rq_digits_ne_nil (by omega) (by omega)

/-- lower-case hex digits only -/
theorem rq_hexLower_hexdig (n : Nat) :
    ∀ b ∈ hexLower n, (48 ≤ b ∧ b ≤ 57) ∨ (97 ≤ b ∧ b ≤ 102) := by
  intro b hb
  rw [rq_hexLower_eq] at hb
  obtain ⟨d, hd, rfl⟩ := rq_digits_mem (by omega) (by omega) n b hb
  clear hb
  revert d
  decide +kernel

theorem rq_natDigits_digit (n : Nat) : ∀ b ∈ natDigits n, rqIsDigit b = true := by
  intro b hb
  rw [rq_natDigits_eq] at hb
  obtain ⟨d, hd, rfl⟩ := rq_digits_mem (by omega) (by omega) n b hb
  clear hb
  revert d
  decide +kernel

theorem rq_hexLower_no_leading_zero (n : Nat) (h : 1 ≤ n) : (hexLower n).head? ≠ some 48 := by
  rw [rq_hexLower_eq]; exact rq_digits_head (by omega) (by omega) n h

theorem rq_hexLower_no13 (n : Nat) : (13 : UInt8) ∉ hexLower n := by
  intro hmem
  have := rq_hexLower_hexdig n 13 hmem
  revert this
  decide

/-! ### sanity -/

example : hexLower 255 = [102, 102] := by rw [rq_hexLower_eq]; decide +kernel
example : hexLower 0 = [48] := by rw [rq_hexLower_eq]; decide +kernel
example : hexLower 4096 = [49, 48, 48, 48] := by rw [rq_hexLower_eq]; decide +kernel
example : natDigits 1024 = [49, 48, 50, 52] := by rw [rq_natDigits_eq]; decide +kernel
example : natDigits 0 = [48] := by rw [rq_natDigits_eq]; decide +kernel
example : rqParseHex [70, 102] = some 255 := by decide +kernel
example : rqParseHex [] = none := by decide +kernel

end Atto
