/-
  Atto/Lemmas/Drain.lean — the convenience readers (`Response::bytes`, `write_to`, `text_utf8`):
  `drainLoop` is the fold `drEv` over the events of the constant read schedule
  `List.replicate fuel sz` (and `finish_body` the same loop with the bytes dropped); what the fold
  makes of a schedule of known `Shape`; the drain of complete bodies and of bodies cut short.
-/
import Atto.Model.CodedEnd
import Atto.Lemmas.BufViewChunked
import Atto.Lemmas.ChunkedAny
namespace Atto
namespace Dr

/-! ## `drainLoop` as a fold over the event list -/

/-- what `io::copy` / `read_to_end` make of a list of read results: stop at the first `Ok(0)`
    (success) or the first error other than Interrupted; an exhausted list is fuel exhaustion -/
def drEv : List Ev → Bytes → RR Bytes
  | [], _ => .panic
  | .ok bs :: es, acc => if bs = [] then .ok acc else drEv es (acc ++ bs)
  | .err e :: es, acc => if e = .io 0 then drEv es acc else .err e
  | .blocked :: _, _ => .blocked
  | .panic :: _, _ => .panic

theorem drainLoop_eq (maxBuf sz : Nat) (fuel : Nat) (b : Body) (acc : Bytes) :
    (drainLoop maxBuf sz fuel b acc).1 =
      drEv (reads maxBuf (List.replicate fuel sz) b).1 acc := by
  fun_induction drainLoop maxBuf sz fuel b acc with
  | case1 => rfl
  | case3 fuel b acc bs b' hb h ih =>
    rw [List.replicate_succ, reads_cons, h]
    exact ih.trans (if_neg hb).symm
  | case4 fuel b acc b' h ih =>
    rw [List.replicate_succ, reads_cons, h]
    exact ih.trans (if_pos rfl).symm
  | case5 fuel b acc e b' he h =>
    rw [List.replicate_succ, reads_cons, h]
    exact (if_neg he).symm
  | case2 fuel b acc b' h | case6 fuel b acc b' h | case7 fuel b acc b' h =>
    rw [List.replicate_succ, reads_cons, h]
    rfl

theorem drain_eq (maxBuf sz : Nat) (b : Body) :
    (drain maxBuf sz b).1 =
      drEv (reads maxBuf (List.replicate (2 * b.inner.flat.length + 4) sz) b).1 [] :=
  drainLoop_eq maxBuf sz _ b []

/-- `finish_body` is the same loop with a 512-byte buffer, the bytes dropped -/
theorem finishBody_eq (maxBuf : Nat) (fuel : Nat) (b : Body) (acc : Bytes) :
    (finishBody maxBuf fuel b).1 = (drainLoop maxBuf 512 fuel b acc).1.map (fun _ => ()) := by
  fun_induction drainLoop maxBuf 512 fuel b acc with
  | case1 => rfl
  | case3 fuel b acc bs b' hb h ih =>
    rw [finishBody, h]
    cases bs with
    | nil => exact absurd rfl hb
    | cons x xs => exact ih
  | case4 fuel b acc b' h ih => rw [finishBody, h]; exact ih
  | case5 fuel b acc e b' he h =>
    rw [finishBody, h]
    cases e with
    | io k =>
      cases k with
      | zero => exact absurd rfl he
      | succ k => rfl
    | _ => rfl
  | case2 fuel b acc b' h | case6 fuel b acc b' h | case7 fuel b acc b' h =>
    rw [finishBody, h]; rfl

/-- the fold returns `Ok` only at an `Ok(0)` -/
theorem drEv_ok {evs : List Ev} {acc a : Bytes} (h : drEv evs acc = .ok a) :
    ∃ j : Nat, evs[j]? = some (.ok []) := by
  induction evs generalizing acc with
  | nil => cases h
  | cons e es ih =>
    cases e with
    | ok bs =>
      by_cases hb : bs = []
      · exact ⟨0, by rw [hb]; rfl⟩
      · simp only [drEv, hb, if_false] at h
        obtain ⟨j, hj⟩ := ih h
        exact ⟨j + 1, hj⟩
    | err e =>
      by_cases he : e = .io 0
      · simp only [drEv, he, if_true] at h
        obtain ⟨j, hj⟩ := ih h
        exact ⟨j + 1, hj⟩
      · simp [drEv, he] at h
    | blocked => cases h
    | panic => cases h

/-- the fold on a list of that shape: `P` is accumulated, `x` decides -/
theorem _root_.Atto.Shape.drEv {P : Bytes} {x : Ev} {evs : List Ev} (h : Shape P x evs) (acc : Bytes) :
    ∃ es, Dr.drEv evs acc = Dr.drEv (x :: es) (acc ++ P) := by
  obtain ⟨pre, es, h1, rfl, rfl⟩ := h
  refine ⟨es, ?_⟩
  induction pre generalizing acc with
  | nil => simp
  | cons e pre ih =>
    have ih := fun acc => ih acc (fun q hq => h1 q (List.mem_cons_of_mem _ hq))
    rcases h1 e List.mem_cons_self with ⟨bs, rfl, hb⟩ | rfl
    · simp only [List.cons_append, Dr.drEv, hb, if_false, deliveredEv]
      rw [ih, List.append_assoc]
    · simp only [List.cons_append, Dr.drEv, if_true, deliveredEv]
      exact ih acc

/-! ## Draining a cut chunked body (flat decoder)

A successful `read` pays for the bytes it hands out with bytes of the stream (`read_pot`,
Lemmas/ChunkedAny.lean), so on ANY stream the reads that return data are fewer than its items: the
fuel of `drain` is never exhausted. -/

/-- the events of the constant schedule `sz, sz, …` (`fuel` reads) on the flat decoder -/
def evsC (m sz fuel : Nat) (c : Chunked (List Item)) : List Ev :=
  (readsC flatSrc m (List.replicate fuel sz) c).1.map Ev.ofRR

theorem evsC_succ (m sz fuel : Nat) (c : Chunked (List Item)) :
    evsC m sz (fuel+1) c =
      Ev.ofRR (c.read flatSrc m sz).1 :: evsC m sz fuel (c.read flatSrc m sz).2 := by
  simp [evsC, List.replicate_succ, readsC_cons]

/-- an event that ends the copy badly: a stall, or an error other than `Interrupted` -/
def _root_.Atto.Ev.EndsBad (x : Ev) : Prop := x = .blocked ∨ ∃ e, e ≠ .io 0 ∧ x = .err e

/-- from a state inside the cut chunk the constant schedule yields pieces of genuine data of that
    chunk and then an event that ends the copy badly. Each successful read hands out a byte of `P`
    and uses up a byte of the stream, so either count bounds the reads. -/
theorem trunc_shape (tail : List Item) (hd : Dead tail) (m : Nat) (hm : 0 < m) (sz : Nat)
    (hsz : 0 < sz) : ∀ (fuel : Nat) (c : Chunked (List Item)) (P : Bytes) (N : Nat),
      TRep tail c P → (P.length ≤ N ∨ (pot c).length ≤ N) → N + 2 ≤ fuel →
      ∃ w x, w <+: P ∧ x.EndsBad ∧ Shape w x (evsC m sz fuel c) := by
  intro fuel
  induction fuel with
  | zero => intro c P N _ _ h; omega
  | succ fuel ih =>
    intro c P N hrep hN hfuel
    rw [evsC_succ]
    rcases step_trunc tail hd c P m sz hm hrep with ⟨out, P', h1, rfl, hne, hrep'⟩ | ⟨hb, hfl⟩
    · have hmu := (read_pot c m sz hrep.1).length_le
      rw [h1] at hmu ⊢
      simp only [RR.got, List.length_append] at hmu hN
      have hpos := List.length_pos_iff.mpr (hne hsz)
      obtain ⟨w, x, hw, hx, hs⟩ := ih _ P' (N - 1) hrep' (by omega) (by omega)
      exact ⟨out ++ w, x, (List.prefix_append_right_inj out).2 hw, hx, hs.cons (hne hsz)⟩
    · rcases hb with ⟨e, he⟩ | he <;> rw [he]
      · by_cases h0 : e = .io 0
        · -- the decoder is latched: the retry after `Interrupted` gets `InvalidData`
          obtain ⟨f', rfl⟩ : ∃ f', fuel = f' + 1 := ⟨fuel - 1, by omega⟩
          have hrd : (c.read flatSrc m sz).2.read flatSrc m sz =
              (.err .chunk, (c.read flatSrc m sz).2) :=
            read_of_fillBuf_err _ _ _ _ _ _ (fillBuf_failed flatSrc _ m hfl)
          rw [h0, evsC_succ, hrd]
          exact ⟨[], _, List.nil_prefix, .inr ⟨.chunk, nofun, rfl⟩, (Shape.here _ _).cons_intr⟩
        · exact ⟨[], _, List.nil_prefix, .inr ⟨e, h0, rfl⟩, .here _ _⟩
      · exact ⟨[], _, List.nil_prefix, .inl rfl, .here _ _⟩

/-- draining from a state inside the cut chunk: an error or a stall, never `Ok` -/
theorem drEv_trunc (tail : List Item) (hd : Dead tail) (m : Nat) (hm : 0 < m) (sz : Nat)
    (hsz : 0 < sz) (fuel : Nat) (c : Chunked (List Item)) (P : Bytes) (N : Nat) (acc : Bytes)
    (h : TRep tail c P) (hmu : (pot c).length ≤ N) (hf : N + 2 ≤ fuel) :
    (drEv (evsC m sz fuel c) acc).Bad := by
  obtain ⟨w, x, _, hx, hs⟩ := trunc_shape tail hd m hm sz hsz fuel c P N h (.inr hmu) hf
  obtain ⟨es, he⟩ := hs.drEv acc
  rw [he]
  rcases hx with rfl | ⟨e, h0, rfl⟩
  · exact .inr rfl
  · exact .inl ⟨e, by simp [drEv, h0]⟩

/-! ## The drain helpers on bodies -/

theorem payloadOf_length_le (cs : List ChunkS) : (payloadOf cs).length ≤ (encChunks cs).length := by
  induction cs with
  | nil => simp [payloadOf, encChunks]
  | cons c cs ih =>
    rw [payloadOf_cons, encChunks_cons]
    simp only [ChunkS.enc, List.length_append]
    omega

section sched
variable (maxBuf sz : Nat) (hsz : 0 < sz)
include hsz

/-- Props/C01h (e) at the level of the post-head reader: a chunked body cut inside a chunk or the
    last-chunk makes the drain helpers fail (error or stall — not `Ok`, not a panic / fuel
    exhaustion). -/
theorem drain_chunked_cut (r1 : BufR) (hok : r1.Ok) (hmb : 0 < maxBuf)
    (cs : List ChunkS) (hcs : ∀ c ∈ cs, c.WF Consts.chunkSizeLineLimit)
    (part : Bytes) (tailItems : List Item)
    (hp : (∃ c : ChunkS, c.WF Consts.chunkSizeLineLimit ∧ part.length < c.enc.length ∧ part <+: c.enc) ∨
          (∃ l : LastS, l.WF Consts.chunkSizeLineLimit ∧ part.length < l.enc.length ∧ part <+: l.enc))
    (ht : Dead tailItems)
    (hfl : r1.flat = bytesI (encChunks cs ++ part) ++ tailItems) :
    (drain maxBuf sz (.chunked { inner := r1 })).1.Bad := by
  rw [drain_eq, reads_chunked_flat r1 hok]
  obtain ⟨d, _, hinv⟩ := trep_fresh cs hcs part tailItems hp
  rw [← hfl] at hinv
  have hmu : (pot (fresh r1.flat)).length ≤ r1.flat.length := by
    rw [pot_fresh]; exact bytesOf_length_le _
  have hfuel : r1.flat.length + 2 ≤ 2 * r1.flat.length + 4 := by omega
  exact drEv_trunc tailItems ht maxBuf hmb sz hsz _ _ _ _ [] hinv hmu hfuel

/-- Props/C01h (a)–(c) at the level of `Body`: a complete body, whatever its framing (`Inv`), is
    drained to exactly its bytes -/
theorem drain_clean {Inv : Body → Bytes → Prop} (h : ReadTracks maxBuf Inv QClean) {b : Body}
    {rem : Bytes} (hi : Inv b rem) (hle : rem.length ≤ b.inner.flat.length) :
    (drain maxBuf sz b).1 = .ok rem := by
  obtain ⟨es, he⟩ :=
    (h.shape (.ok []) sz (QClean.shape hsz) (2 * b.inner.flat.length + 4) hi (by omega)).drEv []
  rw [drain_eq, he]
  simp [drEv]

/-- Props/C01h (f) at the level of `Body`: a `Content-Length` body closed early drains to
    `UnexpectedEof`. -/
theorem drain_cut {b : Body} {rem : Bytes} {k : Nat} (h : Exact b rem (some k) []) (hk : 0 < k) :
    (drain maxBuf sz b).1 = .err .eof := by
  obtain ⟨es, he⟩ := (h.shape maxBuf hsz (fuel := 2 * b.inner.flat.length + 4)
    (by have := h.length_le; omega)).drEv []
  rw [drain_eq, he, endEv_cut hk hsz]
  rfl

end sched

end Dr
end Atto
