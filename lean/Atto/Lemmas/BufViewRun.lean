/-
  Atto/Lemmas/BufViewRun.lean — runs of a consumer that mixes `read(n)`, `fill_buf()` and
  `consume(k)` on a `BodyReader` (`bufRun`, Model/BodyBuf.lean): equations, `bufRun` as a run of
  `Body.step` (so that a step theorem, `Tracks`, speaks of it), and the derivation of the
  five-part "clean" statement of Props/BufView from the events alone.
-/
import Atto.Model.BodyBuf
import Atto.Lemmas.LengthClose
namespace Atto

/-! ## Events -/

/-- the bytes an event takes out of the body -/
def BEv.taken : BEv → Bytes
  | .got bs => bs
  | .took bs => bs
  | _ => []

@[simp] theorem takenEv_nil : takenEv [] = [] := rfl

/-! ## One step, runs -/

theorem step_read (m : Nat) (b : Body) (n : Nat) :
    b.step m (.read n) = (BEv.ofRead (b.read m n).1, (b.read m n).2) := by
  rcases h : b.read m n with ⟨res, b'⟩
  simp [Body.step, h]

theorem step_fill (m : Nat) (b : Body) :
    b.step m .fill = (BEv.ofFill (b.fillBuf m).1, (b.fillBuf m).2) := by
  rcases h : b.fillBuf m with ⟨res, b'⟩
  simp [Body.step, h]

theorem step_consume (m : Nat) (b : Body) (k : Nat) :
    b.step m (.consume k) = (.took (b.window.take k), b.consume k) := rfl

theorem bufRun_cons (m : Nat) (op : BOp) (ops : List BOp) (b : Body) :
    bufRun m (op :: ops) b =
      ((b.step m op).1 :: (bufRun m ops (b.step m op).2).1, (bufRun m ops (b.step m op).2).2) := by
  rcases h : b.step m op with ⟨ev, b'⟩
  simp [bufRun, h]

theorem bufRun_length (m : Nat) (ops : List BOp) (b : Body) :
    (bufRun m ops b).1.length = ops.length := by
  induction ops generalizing b with
  | nil => simp [bufRun]
  | cons op ops ih => simp [bufRun_cons, ih]

theorem bufRun_eq_runG (m : Nat) (ops : List BOp) (b : Body) :
    (bufRun m ops b).1 = runG (Body.step m) ops b := by
  induction ops generalizing b with
  | nil => rfl
  | cons op ops ih => rw [bufRun_cons, ih]; rfl

theorem takenEv_eq_flatMap (evs : List BEv) : takenEv evs = evs.flatMap BEv.taken := by
  induction evs with
  | nil => rfl
  | cons e es ih => rw [List.flatMap_cons, ← ih]; cases e <;> simp [takenEv, BEv.taken]

/-! ## Consumers that respect the `BufRead::consume` contract

`Take::consume(amt)` lowers its limit by `min(amt, limit)` whatever the inner `BufReader` holds, so a
`consume(k)` with `k` larger than the slice `fill_buf` returns makes `Take` lose count. The predicate
below says that a call is within the contract (`amt` ≤ the length of the `fill_buf` slice); only
`Content-Length` bodies need it (chunked and close-delimited bodies clamp `amt` themselves). -/

def Body.allows : Body → BOp → Prop
  | .length r lim, .consume k => k ≤ (r.buf.take lim).length
  | _, _ => True

/-- a lawful run (`lawful`, Model/BodyBuf.lean) is within the contract at every call -/
theorem runA_of_lawful (m : Nat) (ops : List BOp) : ∀ b,
    lawful m ops b = true → runA Body.allows (Body.step m) ops b := by
  induction ops with
  | nil => intro b _; trivial
  | cons op ops ih =>
    intro b hl
    simp only [lawful, Bool.and_eq_true] at hl
    refine ⟨?_, ih _ hl.2⟩
    cases b with
    | chunked c => trivial
    | close r => trivial
    | length r lim =>
      cases op with
      | read n => trivial
      | fill => trivial
      | consume k => simpa [Body.allows, Body.window] using hl.1

/-! ## Step theorems and what they give for a run -/

/-- a step theorem about the three calls, `A` restricting the calls considered -/
abbrev BufTracks (m : Nat) (A : Body → BOp → Prop) (Inv : Body → Bytes → Prop)
    (Q : BOp → Bytes → BEv → Prop) : Prop :=
  Tracks (Body.step m) BEv.taken A Inv Q

/-- `Tracks.get` for `BEv`s, in terms of `takenEv` -/
theorem BufTracks.get_buf {m : Nat} {A : Body → BOp → Prop} {Inv : Body → Bytes → Prop}
    {Q : BOp → Bytes → BEv → Prop} (h : BufTracks m A Inv Q) (ops : List BOp) {b : Body}
    {rem : Bytes} (hi : Inv b rem) (ha : runA A (Body.step m) ops b) :
    takenEv (bufRun m ops b).1 <+: rem ∧
    ∀ i (hi : i < ops.length), ∃ e, (bufRun m ops b).1[i]? = some e ∧
      takenEv ((bufRun m ops b).1.take i) <+: rem ∧
      Q ops[i] (rem.drop (takenEv ((bufRun m ops b).1.take i)).length) e := by
  simpa only [takenEv_eq_flatMap, bufRun_eq_runG] using Tracks.get h ops b rem hi ha

/-- `TracksWhile.get` for `BEv`s, in terms of `takenEv` -/
theorem TracksWhile.get_buf {m : Nat} {A : Body → BOp → Prop} {Inv : Body → Bytes → Prop}
    {Q : BOp → Bytes → BEv → Prop} (h : TracksWhile (Body.step m) BEv.taken A Inv Q)
    (ops : List BOp) {b : Body} {rem : Bytes} (hi : Inv b rem) (ha : runA A (Body.step m) ops b) :
    ∀ i (hi : i < ops.length), (takenEv ((bufRun m ops b).1.take i)).length < rem.length →
      ∃ e, (bufRun m ops b).1[i]? = some e ∧ takenEv ((bufRun m ops b).1.take i) <+: rem ∧
        Q ops[i] (rem.drop (takenEv ((bufRun m ops b).1.take i)).length) e := by
  simpa only [takenEv_eq_flatMap, bufRun_eq_runG] using h.get ops b rem hi ha

/-! ## Complete bodies: the five-part statement from a one-step property -/

def QCleanB (op : BOp) (rem : Bytes) (e : BEv) : Prop :=
  e.isFault = false ∧ (∀ bs, e = .peek bs → bs <+: rem) ∧
  (op = .fill → (e = .peek [] ↔ rem = [])) ∧
  (∀ n, op = .read n → 0 < n → (e = .got [] ↔ rem = []))

theorem BufTracks.clean {m : Nat} {A : Body → BOp → Prop} {Inv : Body → Bytes → Prop}
    (h : BufTracks m A Inv QCleanB) (ops : List BOp) {b : Body} {rem : Bytes} (hi : Inv b rem)
    (ha : runA A (Body.step m) ops b) :
    let evs := (bufRun m ops b).1
    (∀ e ∈ evs, e.isFault = false) ∧ takenEv evs <+: rem ∧
    (∀ i bs, evs[i]? = some (.peek bs) → takenEv (evs.take i) ++ bs <+: rem) ∧
    (∀ i, ops[i]? = some .fill →
        (evs[i]? = some (.peek []) ↔ takenEv (evs.take i) = rem)) ∧
    (∀ i n, ops[i]? = some (.read n) → 0 < n →
        (evs[i]? = some (.got []) ↔ takenEv (evs.take i) = rem)) := by
  intro evs
  have hlen : evs.length = ops.length := bufRun_length m ops b
  obtain ⟨h1, h2⟩ := h.get_buf ops hi ha
  refine ⟨?_, h1, ?_, ?_, ?_⟩
  · exact forall_mem_of_getElem? hlen fun i hi => (h2 i hi).imp fun e' h => ⟨h.1, h.2.2.1⟩
  · intro i bs hev
    obtain ⟨e', he', hp, _, hq, _⟩ := h2 i (hlen ▸ (List.getElem?_eq_some_iff.1 hev).1)
    rw [hev] at he'
    cases he'
    exact prefix_append_of_drop hp (hq bs rfl)
  · intro i hop
    obtain ⟨hi, hopi⟩ := List.getElem?_eq_some_iff.1 hop
    obtain ⟨e', he', hp, _, _, hq, _⟩ := h2 i hi
    rw [he', ← prefix_drop_nil_iff hp, ← hq hopi]
    simp
  · intro i n hop hn
    obtain ⟨hi, hopi⟩ := List.getElem?_eq_some_iff.1 hop
    obtain ⟨e', he', hp, _, _, _, hq⟩ := h2 i hi
    rw [he', ← prefix_drop_nil_iff hp, ← hq n hopi hn]
    simp

end Atto
