/-
  Atto/Lemmas/RqSend.lean — the first connection made by `sendLoop`, spelled out for the two
  branches (CONNECT tunnel / plain exchange), and what `initiateTunnel` can answer.
  Used by Props/C07, C08 and C12.
-/
import Atto.Lemmas.Redirect
import Atto.Lemmas.ConnectCap
import Atto.Lemmas.Pipeline
namespace Atto

/-- the peer `BaseStream::connect` dials: the proxy if one is selected, else the origin -/
def rqDialTarget (s : SendSettings) (url : Url) : Url := (s.proxy.forUrl url).getD url

/-- the CONNECT branch is taken iff a proxy is selected for an `https` URL -/
def rqIsTunnel (s : SendSettings) (url : Url) : Bool :=
  (s.proxy.forUrl url).isSome && url.scheme == str "https"

/-- the header map of the hop after `set_host` -/
def rqHopHeaders (s : SendSettings) (url : Url) (hdrs : Headers) : Headers :=
  match s.proxy.forUrl url with
  | some p => if url.scheme == str "http" then setHost hdrs p else setHost hdrs url
  | none => setHost hdrs url

def rqHopBody (req : Req) (first : Bool) : BodyM :=
  if first || req.bodyRewindable then req.body else { req.body with writes := [] }

/-- the observation of a tunnel hop before the proxy's answer is known -/
def rqTunnelOut (s : SendSettings) (url : Url) : HopOut :=
  { dialScheme := (rqDialTarget s url).scheme, dialHost := (rqDialTarget s url).host,
    dialPort := (rqDialTarget s url).effPort,
    wrote := connectRequest url (rqDialTarget s url), tlsName := none }

/-! The `rq…` names, in which Props/C07, C08, C12 are stated, are the `rd_…` names of
    Lemmas/Redirect.lean. -/

theorem rqHopHeaders_eq (s : SendSettings) (url : Url) (hdrs : Headers) :
    rqHopHeaders s url hdrs = Rd.rd_hopHdrs s hdrs url := rfl

theorem rq_sendLoop_plain (s : SendSettings) (req : Req) (cap : Nat) (hop : Hop) (rest : List Hop)
    (url : Url) (n : Nat) (hdrs : Headers) (first : Bool) (ht : rqIsTunnel s url = false) :
    ∃ tail f, sendLoop s req cap (hop :: rest) url n hdrs first = (Rd.rd_plainOut s req url hdrs first :: tail, f) := by
  rw [← Rd.rd_obs_plain ht]
  exact Rd.sendLoop_cons s req cap hop rest url n hdrs first

theorem rq_sendLoop_tunnel (s : SendSettings) (req : Req) (cap : Nat) (hop : Hop) (rest : List Hop)
    (url : Url) (n : Nat) (hdrs : Headers) (first : Bool) (ht : rqIsTunnel s url = true) :
    sendLoop s req cap (hop :: rest) url n hdrs first =
      match initiateTunnel s.maxHeaders cap hop.script with
      | .tlsStarted => ([{ rqTunnelOut s url with tlsName := some url.host, tlsNameIsDomain := url.hostKind != 1 }], .tlsStarted)
      | f => ([rqTunnelOut s url], f) := by
  rw [Rd.rd_sendLoop_tunnel ht]
  cases initiateTunnel s.maxHeaders cap hop.script <;> rfl

/-- a tunnel hop whose CONNECT was not agreed: the CONNECT head, no TLS, and the loop ends with the refusal -/
theorem rq_sendLoop_refused {s : SendSettings} {req : Req} {cap : Nat} {hop : Hop} {rest : List Hop}
    {url : Url} {n : Nat} {hdrs : Headers} {first : Bool} (ht : rqIsTunnel s url = true)
    (hf : initiateTunnel s.maxHeaders cap hop.script ≠ .tlsStarted) :
    sendLoop s req cap (hop :: rest) url n hdrs first =
      ([rqTunnelOut s url], initiateTunnel s.maxHeaders cap hop.script) := by
  rw [rq_sendLoop_tunnel s req cap hop rest url n hdrs first ht]
  split
  · rename_i h; exact absurd h hf
  · rfl

/-- a tunnel hop whose CONNECT was agreed: TLS towards the origin's host starts -/
theorem rq_sendLoop_agreed {s : SendSettings} {req : Req} {cap : Nat} {hop : Hop} {rest : List Hop}
    {url : Url} {n : Nat} {hdrs : Headers} {first : Bool} (ht : rqIsTunnel s url = true)
    (hf : initiateTunnel s.maxHeaders cap hop.script = .tlsStarted) :
    sendLoop s req cap (hop :: rest) url n hdrs first =
      ([{ rqTunnelOut s url with tlsName := some url.host, tlsNameIsDomain := url.hostKind != 1 }],
        .tlsStarted) := by
  rw [rq_sendLoop_tunnel s req cap hop rest url n hdrs first ht, hf]

/-! ### `initiateTunnel` -/

/-- the proxy's reply head as `initiate_tunnel` parses it, and the reader state after it -/
def rqReplyHead (mh cap : Nat) (t : Transport) : RR (Nat × Headers) × BufR :=
  parseResponseHead bufSrc { buf := [], cap := cap, inner := t } mh

def rqTunnelFinal : RR (Nat × Headers) × BufR → Final
  | (.ok (status, _), r1) =>
    if 200 ≤ status ∧ status < 300 then .tlsStarted
    else match readToEndTake (Consts.connectBodyCap + r1.inner.length + 2) r1 Consts.connectBodyCap [] with
      | .ok body => .connectError status body
      | .err e => .err e
      | .blocked => .blocked
      | .panic => .panic
  | (.err e, _) => .err e
  | (.blocked, _) => .blocked
  | (.panic, _) => .panic

theorem rq_initiateTunnel_eq (mh cap : Nat) (t : Transport) :
    initiateTunnel mh cap t = rqTunnelFinal (rqReplyHead mh cap t) := rfl

theorem rq_initiateTunnel_tls_iff (mh cap : Nat) (t : Transport) :
    initiateTunnel mh cap t = .tlsStarted ↔
      ∃ status hs, (rqReplyHead mh cap t).1 = .ok (status, hs) ∧ 200 ≤ status ∧ status < 300 := by
  rw [rq_initiateTunnel_eq]
  generalize rqReplyHead mh cap t = p
  obtain ⟨res, r1⟩ := p
  cases res with
  | ok v =>
    obtain ⟨status, hs⟩ := v
    simp only [rqTunnelFinal]
    by_cases h2 : 200 ≤ status ∧ status < 300
    · simp only [h2, and_self, if_true, true_iff]
      exact ⟨status, hs, rfl, h2.1, h2.2⟩
    · simp only [h2, if_false]
      constructor
      · intro h
        cases hr : readToEndTake (Consts.connectBodyCap + r1.inner.length + 2) r1 Consts.connectBodyCap [] <;>
          rw [hr] at h <;> simp at h
      · rintro ⟨st, hs', he, h3, h4⟩
        simp only [RR.ok.injEq, Prod.mk.injEq] at he
        obtain ⟨rfl, _⟩ := he
        exact absurd ⟨h3, h4⟩ h2
  | err e => simp [rqTunnelFinal]
  | blocked => simp [rqTunnelFinal]
  | panic => simp [rqTunnelFinal]

theorem rq_initiateTunnel_refused (mh cap : Nat) (t : Transport) (status : Nat) (hs : Headers)
    (body : Bytes) (hh : (rqReplyHead mh cap t).1 = .ok (status, hs))
    (h2 : ¬ (200 ≤ status ∧ status < 300))
    (hb : readToEndTake (Consts.connectBodyCap + (rqReplyHead mh cap t).2.inner.length + 2)
            (rqReplyHead mh cap t).2 Consts.connectBodyCap [] = .ok body) :
    initiateTunnel mh cap t = .connectError status body := by
  rw [rq_initiateTunnel_eq]
  revert hh hb
  generalize rqReplyHead mh cap t = p
  obtain ⟨res, r1⟩ := p
  intro hh hb
  simp only at hh hb
  subst hh
  simp only [rqTunnelFinal, h2, if_false, hb]

theorem rq_replyHead_ok (mh cap : Nat) (t : Transport) (hw : wfT t) (hc : 0 < cap) :
    (rqReplyHead mh cap t).2.Ok :=
  (parseResponseHead_sim bufSim { buf := [], cap := cap, inner := t } mh ⟨hw, hc⟩).2.2

end Atto
