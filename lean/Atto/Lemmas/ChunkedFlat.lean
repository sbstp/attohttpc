/-
  Atto/Lemmas/ChunkedFlat.lean — the model of attohttpc's chunked decoder (`Chunked`), instantiated on
  the flat item stream (`flatSrc`), decodes what a server framed (Spec/ChunkedSpec.lean), one
  operation at a time: while it is in step with a well-formed stream (`Rep`) a `fill_buf` shows a
  non-empty piece of the payload and a `read` hands one out (`Rep.fillBuf`, `Rep.consume`,
  `step_progress`); on the last-chunk it ends (`step_last`, `step_done`); on a cut frame it runs in
  step with a decoder on the complete frame until it needs a byte behind the cut (`TRep`,
  `step_trunc`). The runs of reads are in Lemmas/BufViewChunked.lean and Lemmas/ChunkedRuns.lean.

  To know when stating something new: the refill that reads the LAST piece of a chunk's data (at most
  `maxBuf` bytes; all of it if it fits) reads the chunk's line ending in the same call
  (`Chunked.refillData`), and drops the buffer if that is no line ending. So the last piece of a chunk
  becomes visible only once its line ending has been read, and is never handed out if the ending
  is bad. What a given refill returns on given bytes is said by the equations of this file
  (`readChunkSize_ok`, `refill_size_line`, `refillData_full`, `refillData_flat_zero`,
  `refill_boundary`, `refill_last`, `fillBuf_refill_ok`, `read_of_fillBuf`, `read_refill_err`); the
  contracts of Lemmas/Prog.lean say what holds on ANY stream.
-/
import Atto.Model.Reads
import Atto.Lemmas.Prog
namespace Atto

/-! ## `fill_buf` and `read` by cases, on any source -/

/-- the readable slice `&buffer[consumed..]` -/
def avail (c : Chunked σ) : Bytes := c.buffer.drop c.consumed

def fresh (is : List Item) : Chunked (List Item) := { inner := is }

theorem avail_consume (c : Chunked σ) (k : Nat) : avail (c.consume k) = (avail c).drop k := by
  simp only [avail, Chunked.consume, List.drop_drop]
  by_cases h : c.consumed + k ≤ c.buffer.length
  · rw [Nat.min_eq_left h]
  · rw [Nat.min_eq_right (by omega), List.drop_eq_nil_of_le (Nat.le_refl _),
      List.drop_eq_nil_of_le (by omega)]

theorem avail_eq_nil_iff (c : Chunked σ) (hc : c.consumed ≤ c.buffer.length) :
    avail c = [] ↔ c.buffer.length = c.consumed := by
  simp only [avail, List.drop_eq_nil_iff]; omega

theorem fillBuf_failed (S : Src σ) (c : Chunked σ) (m : Nat) (h : c.failed = true) :
    c.fillBuf S m = (.err .chunk, c) := by
  simp [Chunked.fillBuf, h]

theorem fillBuf_noRefill (S : Src σ) (c : Chunked σ) (m : Nat) (hf : c.failed = false)
    (h : ¬ (c.buffer.length = c.consumed ∧ ¬ (c.remaining = 0 ∧ c.reachedEof)))
    (hc : c.consumed ≤ c.buffer.length) :
    c.fillBuf S m = (.ok (c.buffer.drop c.consumed), c) := by
  have : ¬ c.buffer.length < c.consumed := by omega
  simp only [Chunked.fillBuf, hf, h, if_false, Bool.false_eq_true, this]

theorem fillBuf_refill (S : Src σ) (c : Chunked σ) (m : Nat) (hf : c.failed = false)
    (h : c.buffer.length = c.consumed ∧ ¬ (c.remaining = 0 ∧ c.reachedEof)) :
    c.fillBuf S m =
      match c.refill S m with
      | (.ok (), c') =>
        if c'.buffer.length < c'.consumed then (.panic, c') else (.ok (c'.buffer.drop c'.consumed), c')
      | (.err e, c') => (.err e, { c' with failed := true, buffer := [], consumed := 0 })
      | (.blocked, c') => (.blocked, { c' with failed := true, buffer := [], consumed := 0 })
      | (.panic, c') => (.panic, c') := by
  simp only [Chunked.fillBuf, hf, h, Bool.false_eq_true, if_false]
  rcases c.refill S m with ⟨res, c'⟩
  cases res <;> rfl

theorem fillBuf_refill_ok (S : Src σ) (c c' : Chunked σ) (m : Nat) (hf : c.failed = false)
    (h : c.buffer.length = c.consumed ∧ ¬ (c.remaining = 0 ∧ c.reachedEof))
    (hr : c.refill S m = (.ok (), c')) (hc' : c'.consumed ≤ c'.buffer.length) :
    c.fillBuf S m = (.ok (avail c'), c') := by
  have : ¬ c'.buffer.length < c'.consumed := by omega
  rw [fillBuf_refill _ _ _ hf h, hr]
  simp only [this, if_false, avail]

theorem read_of_fillBuf (S : Src σ) (c c' : Chunked σ) (m n : Nat) (av : Bytes)
    (h : c.fillBuf S m = (.ok av, c')) :
    c.read S m n = (.ok (av.take n), c'.consume (av.take n).length) := by
  simp only [Chunked.read, h]

theorem read_of_fillBuf_err (S : Src σ) (c c' : Chunked σ) (m n : Nat) (e : E)
    (h : c.fillBuf S m = (.err e, c')) : c.read S m n = (.err e, c') := by
  simp only [Chunked.read, h]

theorem read_of_fillBuf_blocked (S : Src σ) (c c' : Chunked σ) (m n : Nat)
    (h : c.fillBuf S m = (.blocked, c')) : c.read S m n = (.blocked, c') := by
  simp only [Chunked.read, h]

/-- a refill that fails with an error: the `read` returns it and latches the failure -/
theorem read_refill_err (S : Src σ) (c c' : Chunked σ) (m n : Nat) (e : E) (hf : c.failed = false)
    (h : c.buffer.length = c.consumed ∧ ¬ (c.remaining = 0 ∧ c.reachedEof))
    (hr : c.refill S m = (.err e, c')) :
    c.read S m n = (.err e, { c' with failed := true, buffer := [], consumed := 0 }) :=
  read_of_fillBuf_err _ _ _ _ _ _ (by rw [fillBuf_refill _ _ _ hf h, hr])

theorem readsC_cons (S : Src σ) (m n : Nat) (ns : List Nat) (c : Chunked σ) :
    (readsC S m (n :: ns) c).1 = (c.read S m n).1 :: (readsC S m ns (c.read S m n).2).1 := by
  rcases h : c.read S m n with ⟨res, c'⟩
  simp [readsC, h]

theorem delivered_ok_cons (out : Bytes) (es : List (RR Bytes)) :
    delivered (.ok out :: es) = out ++ delivered es := rfl

/-! ## No panic on any input -/

theorem refill_flat_ne_panic (c : Chunked (List Item)) (m : Nat) :
    (Chunked.refill flatSrc c m).1 ≠ .panic := by
  obtain ⟨_, _, h, _⟩ := c.refill_flat_spec m
  exact h.noPanic

theorem fillBuf_flat_ne_panic (c : Chunked (List Item)) (m : Nat) (hc : c.consumed ≤ c.buffer.length) :
    (Chunked.fillBuf flatSrc c m).1 ≠ .panic ∧
    (Chunked.fillBuf flatSrc c m).2.consumed ≤ (Chunked.fillBuf flatSrc c m).2.buffer.length := by
  obtain ⟨_, _, h, _⟩ := c.fillBuf_flat_spec m
  exact h.inRange hc

theorem read_flat_ne_panic (c : Chunked (List Item)) (m n : Nat) (hc : c.consumed ≤ c.buffer.length) :
    (Chunked.read flatSrc c m n).1 ≠ .panic ∧
    (Chunked.read flatSrc c m n).2.consumed ≤ (Chunked.read flatSrc c m n).2.buffer.length := by
  obtain ⟨_, _, h, _⟩ := c.read_flat_spec m n
  exact h.inRange hc

/-! ## The size line -/

theorem hex_ascii {b : UInt8} (h : isHexDigit b = true) :
    b < 0x80 ∧ ((9 ≤ b && b ≤ 13) || b == 32) = false ∧ b ≠ 59 ∧ b ≠ 10 ∧ b ≠ 43 := by
  have : (48 ≤ b.toNat ∧ b.toNat ≤ 57) ∨ (97 ≤ b.toNat ∧ b.toNat ≤ 102) ∨
      (65 ≤ b.toNat ∧ b.toNat ≤ 70) := by
    unfold isHexDigit hexVal? at h
    split at h
    · left; u8_omega
    · split at h
      · right; left; u8_omega
      · split at h
        · right; right; u8_omega
        · simp at h
  refine ⟨?_, ?_, ?_, ?_, ?_⟩ <;> u8_omega

theorem digitsVal_hex (bs : Bytes) (h : ∀ b ∈ bs, isHexDigit b = true) (acc : Nat) :
    digitsVal hexVal? 16 bs acc =
      some (bs.foldl (fun acc b => acc * 16 + (hexVal? b).getD 0) acc) := by
  induction bs generalizing acc with
  | nil => rfl
  | cons b bs ih =>
    have hb := h b (by simp)
    unfold isHexDigit at hb
    obtain ⟨d, hd⟩ := Option.isSome_iff_exists.mp hb
    simp only [digitsVal, hd, List.foldl_cons, Option.getD_some]
    exact ih (fun x hx => h x (by simp [hx])) _

theorem parseUnsigned_hex (bs : Bytes) (hne : bs ≠ []) (h : ∀ b ∈ bs, isHexDigit b = true)
    (hv : hexValue bs < u64Bound) : parseUnsigned hexVal? 16 bs = some (hexValue bs) := by
  obtain ⟨b, rest, rfl⟩ := List.exists_cons_of_ne_nil hne
  have hb := hex_ascii (h b (by simp))
  unfold parseUnsigned
  split
  · rename_i heq; simp at heq; exact absurd heq.1 hb.2.2.2.2
  · rw [if_neg (List.cons_ne_nil _ _), digitsVal_hex _ h]
    exact if_pos hv

/-- the size field of a well-formed size line parses to the value of its hex digits -/
theorem parseChunkSize_ok (sr ext : Bytes) (hne : sr ≠ []) (h : ∀ b ∈ sr, isHexDigit b = true)
    (hext : ext = [] ∨ ext.head? = some 59) (hv : hexValue sr < u64Bound) :
    parseChunkSize (sr ++ ext) = .ok (hexValue sr) := by
  have h59 : (59 : UInt8) ∉ sr := fun hb => (hex_ascii (h 59 hb)).2.2.1 rfl
  have hu : validUtf8 sr = true := validUtf8_ascii sr (fun b hb => (hex_ascii (h b hb)).1)
  have ht : strTrim sr = sr :=
    strTrim_word sr hne fun b hb => ⟨(hex_ascii (h b hb)).1, (hex_ascii (h b hb)).2.1⟩
  unfold parseChunkSize
  rcases hext with rfl | hh
  · simp [List.idxOf?_eq_none_iff.mpr h59, hu, ht, parseUnsigned_hex sr hne h hv]
  · obtain ⟨e, rfl⟩ : ∃ e, ext = 59 :: e := by
      cases ext with
      | nil => simp at hh
      | cons x e => simp at hh; exact ⟨e, by rw [hh]⟩
    simp [idxOf?_append_cons 59 e sr h59, hu, ht, parseUnsigned_hex sr hne h hv]

/-! ## Reading a well-formed size line from the flat stream -/

local notation "L" => Consts.chunkSizeLineLimit

theorem chunkSizeLineLimit_eq : Consts.chunkSizeLineLimit = 128 := rfl

/-- what the decoder needs from a size line `sr ++ ext ++ CRLF` announcing `n` bytes -/
structure SizeOK (sr ext : Bytes) (n : Nat) : Prop where
  ne : sr ≠ []
  hex : ∀ b ∈ sr, isHexDigit b = true
  val : hexValue sr = n
  bound : n < u64Bound
  extOk : ext = [] ∨ ext.head? = some 59
  nolf : (10 : UInt8) ∉ ext
  len : sr.length + ext.length + 2 ≤ L

theorem SizeOK.of_chunk {c : ChunkS} (h : c.WF L) : SizeOK c.sizeRepr c.ext c.data.length :=
  let ⟨_, ne, hex, val, bound, extOk, nolf, len⟩ := h
  ⟨ne, hex, val, bound, extOk, nolf, len⟩

theorem hexValue_zeros (zs : Bytes) (h : ∀ b ∈ zs, b = 48) : hexValue zs = 0 := by
  unfold hexValue
  induction zs with
  | nil => rfl
  | cons b zs ih =>
    have hb := h b (by simp)
    subst hb
    simp only [List.foldl_cons]
    exact ih (fun x hx => h x (by simp [hx]))

theorem SizeOK.of_last {l : LastS} (h : l.WF L) : SizeOK l.zeros l.ext 0 :=
  let ⟨ne, zeros, extOk, nolf, len, _⟩ := h
  ⟨ne, fun b hb => by rw [zeros b hb]; decide, hexValue_zeros _ zeros, by decide, extOk, nolf, len⟩

theorem readChunkSize_ok (c : Chunked (List Item)) (sr ext : Bytes) (n : Nat) (Y : List Item)
    (hs : SizeOK sr ext n) (hi : c.inner = bytesI (sr ++ ext ++ [13, 10]) ++ Y) :
    c.readChunkSize flatSrc = (.ok n, { c with inner := Y, buffer := sr ++ ext }) := by
  have hne : sr ++ ext ≠ [] := by simp [hs.ne]
  have h10 : (10 : UInt8) ∉ sr ++ ext := fun hm => (List.mem_append.mp hm).elim
    (fun hm => (hex_ascii (hs.hex _ hm)).2.2.2.1 rfl) hs.nolf
  have hp : parseChunkSize (sr ++ ext) = .ok n := by
    rw [← hs.val]; exact parseChunkSize_ok sr ext hs.ne hs.hex hs.extOk (by rw [hs.val]; exact hs.bound)
  unfold Chunked.readChunkSize
  rw [hi, readLine_line (sr ++ ext) h10 L (by simpa using hs.len) Y]
  simp only [hne, if_false, hp]

/-! ## The trailer section -/

/-- trailer field lines as the decoder lets them pass: non-empty, LF-free, within the line limit
    (with their CRLF) -/
def TrLinesOK (ts : List Bytes) : Prop :=
  ∀ t ∈ ts, t ≠ [] ∧ (10 : UInt8) ∉ t ∧ t.length + 2 ≤ Consts.trailerLineLimit

theorem TrLinesOK.tail {t : Bytes} {ts : List Bytes} (h : TrLinesOK (t :: ts)) : TrLinesOK ts :=
  fun x hx => h x (by simp [hx])

theorem TrLinesOK.of_last {l : LastS} {lim : Nat} (h : l.WF lim) :
    TrLinesOK l.trailers ∧ l.trailers.length ≤ Consts.maxTrailerLines :=
  let ⟨_, _, _, _, _, lines, count⟩ := h
  ⟨lines, count⟩

/-- one iteration of `skip_trailers` on a non-empty line -/
theorem skipTrailersLoop_line (t : Bytes) (hne : t ≠ []) (h10 : (10 : UInt8) ∉ t)
    (hl : t.length + 2 ≤ Consts.trailerLineLimit) (k : Nat) (Y : List Item) :
    skipTrailersLoop flatSrc (k + 1) (bytesI (t ++ [13, 10]) ++ Y) = skipTrailersLoop flatSrc k Y := by
  rw [skipTrailersLoop, readLine_line t h10 _ hl Y]
  simp only [hne, if_false]

/-- … and on the empty line that ends the section -/
theorem skipTrailersLoop_end (k : Nat) (Y : List Item) :
    skipTrailersLoop flatSrc (k + 1) (bytesI [13, 10] ++ Y) = (.ok true, Y) := by
  have := readLine_line [] (by simp) Consts.trailerLineLimit (by decide) Y
  rw [List.nil_append] at this
  rw [skipTrailersLoop, this]
  simp only [if_true]

/-- complete trailer lines are skipped, one iteration each, whatever follows them -/
theorem skipTrailersLoop_lines (ts : List Bytes) (hts : TrLinesOK ts) (k : Nat) (Z : List Item) :
    skipTrailersLoop flatSrc (ts.length + k) (bytesI (encTrailers ts) ++ Z) =
      skipTrailersLoop flatSrc k Z := by
  induction ts with
  | nil => simp [encTrailers, bytesI_nil]
  | cons t ts ih =>
    obtain ⟨h1, h2, h3⟩ := hts t (by simp)
    rw [show encTrailers (t :: ts) = t ++ [13, 10] ++ encTrailers ts by simp [encTrailers],
      bytesI_append, List.append_assoc, List.length_cons, Nat.add_right_comm,
      skipTrailersLoop_line t h1 h2 h3]
    exact ih hts.tail

/-- a well-formed trailer section of at most `maxTrailerLines` lines is skipped: the decoder stops
    right behind the empty line -/
theorem skipTrailers_ok (ts : List Bytes) (hts : TrLinesOK ts)
    (hn : ts.length ≤ Consts.maxTrailerLines) (X : List Item) :
    skipTrailers flatSrc (bytesI (encTrailers ts ++ [13, 10]) ++ X) = (.ok true, X) := by
  obtain ⟨j, hj⟩ : ∃ j, Consts.maxTrailerLines + 1 = ts.length + (j + 1) :=
    ⟨Consts.maxTrailerLines - ts.length, by omega⟩
  rw [skipTrailers, hj, bytesI_append, List.append_assoc, skipTrailersLoop_lines ts hts,
    skipTrailersLoop_end]

theorem chunkEnd_crlf (last : Bool) (X : List Item) :
    chunkEnd flatSrc last (bytesI [13, 10] ++ X) = (.ok true, X) := by
  unfold chunkEnd
  cases last
  · simp [readLineEnding, flatSrc, bytesI, specExact]
  · exact skipTrailersLoop_end _ X

/-! ## Refill on a complete chunk, and on the last-chunk -/

/-- what is left in the stream of a chunk whose undelivered data is `d` (nothing once the data and
    its CRLF have been read) -/
def midI (d : Bytes) : List Item := if d = [] then [] else bytesI (d ++ [13, 10])

theorem midI_nil : midI [] = [] := rfl

/-- the data part of a refill in front of the outstanding data `d` of a chunk and its CRLF: up to `m`
    bytes of `d`; if these are the last, the CRLF is read in the same call -/
theorem refillData_full (c1 : Chunked (List Item)) (d : Bytes) (X : List Item) (m : Nat)
    (hr : c1.remaining = d.length) (hi : c1.inner = bytesI (d ++ [13, 10]) ++ X) :
    Chunked.refillData flatSrc c1 m =
      (.ok (), { c1 with inner := midI (d.drop (min d.length m)) ++ X,
                         buffer := d.take (min d.length m), consumed := 0,
                         remaining := d.length - min d.length m }) := by
  have hk : min d.length m ≤ d.length := Nat.min_le_left _ _
  have hspec : flatSrc.readExact c1.inner (min c1.remaining m) =
      (.ok (d.take (min d.length m)), bytesI (d.drop (min d.length m)) ++ (bytesI [13, 10] ++ X)) := by
    rw [hi, hr, bytesI_append, List.append_assoc]
    exact specExact_take d _ _ hk
  unfold Chunked.refillData
  rw [hspec]
  have h1 : ¬ d.length < min d.length m := by omega
  simp only [hr, List.length_take, Nat.min_eq_left hk, h1, if_false]
  by_cases h0 : d.length - min d.length m = 0
  · have hd : d.drop (min d.length m) = [] := by
      apply List.drop_eq_nil_of_le; omega
    simp only [h0, if_true, hd, bytesI_nil, List.nil_append, chunkEnd_crlf, midI]
  · have hd : d.drop (min d.length m) ≠ [] := fun h => h0 (by
      have := List.drop_eq_nil_iff.mp h; omega)
    simp only [h0, if_false, midI, hd, bytesI_append, List.append_assoc]

/-- a refill at a chunk boundary, past a well-formed size line: the data part, in the state the size
    line leaves -/
theorem refill_size_line (c : Chunked (List Item)) (sr ext : Bytes) (n : Nat) (Y : List Item)
    (m : Nat) (hs : SizeOK sr ext n) (hr : c.remaining = 0)
    (hi : c.inner = bytesI (sr ++ ext ++ [13, 10]) ++ Y) :
    Chunked.refill flatSrc c m =
      Chunked.refillData flatSrc
        { c with inner := Y, buffer := sr ++ ext, remaining := n,
                 reachedEof := c.reachedEof || n == 0 } m := by
  unfold Chunked.refill
  simp only [hr, if_true, readChunkSize_ok c sr ext n Y hs hi]

/-- a refill at a chunk boundary, in front of a well-formed chunk: its size line, then up to `m`
    bytes of its data -/
theorem refill_boundary (c : Chunked (List Item)) (ch : ChunkS) (hch : ch.WF L) (X : List Item)
    (m : Nat) (hr : c.remaining = 0) (hi : c.inner = bytesI ch.enc ++ X) :
    Chunked.refill flatSrc c m =
      (.ok (), { c with inner := midI (ch.data.drop (min ch.data.length m)) ++ X,
                        buffer := ch.data.take (min ch.data.length m), consumed := 0,
                        remaining := ch.data.length - min ch.data.length m,
                        reachedEof := c.reachedEof || ch.data.length == 0 }) := by
  have hi' : c.inner = bytesI (ch.sizeRepr ++ ch.ext ++ [13, 10]) ++
      (bytesI (ch.data ++ [13, 10]) ++ X) := by
    rw [hi]; simp only [ChunkS.enc, bytesI_append, List.append_assoc]
  rw [refill_size_line c _ _ ch.data.length _ m (SizeOK.of_chunk hch) hr hi',
    refillData_full _ ch.data X m rfl rfl]

/-- the data part of a refill when no data is outstanding (after the last-chunk's size line):
    nothing is read, what ends the chunk decides -/
theorem refillData_flat_zero (c1 : Chunked (List Item)) (m : Nat) (hr : c1.remaining = 0) :
    Chunked.refillData flatSrc c1 m =
      match chunkEnd flatSrc c1.reachedEof c1.inner with
      | (.ok true, r'') =>
        (.ok (), { c1 with inner := r'', buffer := [], consumed := 0, remaining := 0 })
      | (.ok false, r'') =>
        (.err .chunk, { c1 with inner := r'', buffer := [], consumed := 0, remaining := 0,
                                reachedEof := true })
      | (.err e, r'') => (.err e, { c1 with inner := r'', buffer := [], consumed := 0, remaining := 0 })
      | (.blocked, r'') =>
        (.blocked, { c1 with inner := r'', buffer := [], consumed := 0, remaining := 0 })
      | (.panic, r'') => (.panic, { c1 with inner := r'', buffer := [], consumed := 0, remaining := 0 }) := by
  have hspec : flatSrc.readExact c1.inner (min c1.remaining m) = (.ok [], c1.inner) := by
    rw [hr]; simp [flatSrc]
  unfold Chunked.refillData
  rw [hspec]
  simp only [hr, List.length_nil, Nat.lt_irrefl, if_false, Nat.sub_self, if_true]
  rcases chunkEnd flatSrc c1.reachedEof c1.inner with ⟨res, r''⟩
  rcases res with (_ | _) | e | _ | _ <;> rfl

/-- the refill at the last-chunk: size line `0`, trailer section, empty line -/
theorem refill_last (c : Chunked (List Item)) (sr ext : Bytes) (ts : List Bytes) (X : List Item)
    (m : Nat) (hs : SizeOK sr ext 0) (hts : TrLinesOK ts) (hn : ts.length ≤ Consts.maxTrailerLines)
    (hr : c.remaining = 0)
    (hi : c.inner = bytesI (sr ++ ext ++ [13, 10] ++ encTrailers ts ++ [13, 10]) ++ X) :
    Chunked.refill flatSrc c m =
      (.ok (), { c with inner := X, buffer := [], consumed := 0, remaining := 0,
                        reachedEof := true }) := by
  have hi' : c.inner = bytesI (sr ++ ext ++ [13, 10]) ++ (bytesI (encTrailers ts ++ [13, 10]) ++ X) := by
    rw [hi]; simp only [bytesI_append, List.append_assoc]
  rw [refill_size_line c sr ext 0 _ m hs hr hi', refillData_flat_zero _ m rfl]
  simp only [beq_self_eq_true, Bool.or_true, chunkEnd, if_true, skipTrailers_ok ts hts hn X]

/-! ## The decoder in step with a well-formed stream -/

/-- The back end (`inner`, `remaining`, flags) of the decoder is in step with a well-formed stream:
    `d` is the undelivered data of the chunk being read, `cs` the complete chunks that follow, then
    `rest`. -/
structure Good (c : Chunked (List Item)) (d : Bytes) (cs : List ChunkS) (rest : List Item) :
    Prop where
  failed : c.failed = false
  reachedEof : c.reachedEof = false
  wf : ∀ ch ∈ cs, ChunkS.WF L ch
  remaining : c.remaining = d.length
  inner : c.inner = midI d ++ (bytesI (encChunks cs) ++ rest)

/-- full invariant: `P` is everything that is still to be handed out: the readable slice, then what
    is to come from the back end -/
structure Rep (c : Chunked (List Item)) (P : Bytes) (rest : List Item) : Prop where
  inRange : c.consumed ≤ c.buffer.length
  good : ∃ d cs, Good c d cs rest ∧ P = avail c ++ (d ++ payloadOf cs)

theorem payloadOf_cons (ch : ChunkS) (cs : List ChunkS) :
    payloadOf (ch :: cs) = ch.data ++ payloadOf cs := by simp [payloadOf]

theorem encChunks_cons (ch : ChunkS) (cs : List ChunkS) :
    encChunks (ch :: cs) = ch.enc ++ encChunks cs := by simp [encChunks]

theorem rep_fresh (cs : List ChunkS) (hwf : ∀ c ∈ cs, c.WF L) (rest : List Item) :
    Rep (fresh (bytesI (encChunks cs) ++ rest)) (payloadOf cs) rest :=
  ⟨Nat.le_refl _, [], cs, ⟨rfl, rfl, hwf, rfl, by simp [fresh, midI]⟩, by simp [avail, fresh]⟩

/-- a refill while payload is to come from the back end: the buffer gets the next bytes of it (some,
    if `0 < maxBuf`), nothing is lost -/
theorem Good.refill {c : Chunked (List Item)} {d : Bytes} {cs : List ChunkS} {rest : List Item}
    (h : Good c d cs rest) (hne : d ++ payloadOf cs ≠ []) (m : Nat) :
    ∃ c' d' cs', c.refill flatSrc m = (.ok (), c') ∧ c'.consumed = 0 ∧ Good c' d' cs' rest ∧
      d ++ payloadOf cs = c'.buffer ++ (d' ++ payloadOf cs') ∧ (0 < m → c'.buffer ≠ []) := by
  by_cases hd : d = []
  · -- at a chunk boundary: the size line of the next chunk, then up to `m` bytes of its data
    subst hd
    cases cs with
    | nil => exact absurd rfl hne
    | cons ch cs =>
      have hch := h.wf ch (by simp)
      have hi : c.inner = bytesI ch.enc ++ (bytesI (encChunks cs) ++ rest) := by
        rw [h.inner, midI_nil, List.nil_append, encChunks_cons, bytesI_append, List.append_assoc]
      have hdata : ch.data.length ≠ 0 := by have := List.length_pos_iff.mpr hch.1; omega
      exact ⟨_, ch.data.drop (min ch.data.length m), cs,
        refill_boundary c ch hch _ m (by simpa using h.remaining) hi, rfl,
        ⟨h.failed, by simp [h.reachedEof, hdata], fun x hx => h.wf x (by simp [hx]), by simp, rfl⟩,
        by simp [payloadOf_cons, ← List.append_assoc], fun hm => take_ne_nil hch.1 (by omega)⟩
  · -- inside a chunk: up to `m` bytes of its data
    have hdl : d.length ≠ 0 := by have := List.length_pos_iff.mpr hd; omega
    have hrem : ¬ c.remaining = 0 := by rw [h.remaining]; exact hdl
    have hi : c.inner = bytesI (d ++ [13, 10]) ++ (bytesI (encChunks cs) ++ rest) := by
      rw [h.inner, midI, if_neg hd]
    have hrf : c.refill flatSrc m = Chunked.refillData flatSrc c m := by
      simp [Chunked.refill, hrem]
    rw [refillData_full c d _ m h.remaining hi] at hrf
    exact ⟨_, d.drop (min d.length m), cs, hrf, rfl, ⟨h.failed, h.reachedEof, h.wf, by simp, rfl⟩,
      by simp [← List.append_assoc], fun hm => take_ne_nil hd (by omega)⟩

/-- `fill_buf` while payload is pending: a non-empty slice; nothing is handed out yet -/
theorem Rep.fillBuf {c : Chunked (List Item)} {P : Bytes} {rest : List Item} (h : Rep c P rest)
    (hP : P ≠ []) {m : Nat} (hm : 0 < m) :
    ∃ c', c.fillBuf flatSrc m = (.ok (avail c'), c') ∧ avail c' ≠ [] ∧ Rep c' P rest := by
  obtain ⟨d, cs, hg, rfl⟩ := h.good
  by_cases hav : avail c = []
  · -- nothing buffered: a refill
    have hlen := (avail_eq_nil_iff c h.inRange).mp hav
    obtain ⟨c', d', cs', hrf, h0, hg', e, hne⟩ := hg.refill (by simpa [hav] using hP) m
    have hav' : avail c' = c'.buffer := by simp [avail, h0]
    exact ⟨c', fillBuf_refill_ok _ _ _ m hg.failed (by simp [hlen, hg.reachedEof]) hrf (by omega),
      by rw [hav']; exact hne hm,
      ⟨by omega, d', cs', hg', by rw [hav, hav', List.nil_append, e]⟩⟩
  · -- buffered bytes: no refill
    have hlt : ¬ c.buffer.length = c.consumed := fun e => hav ((avail_eq_nil_iff c h.inRange).mpr e)
    refine ⟨c, ?_, hav, h⟩
    rw [fillBuf_noRefill _ _ _ hg.failed (by simp [hlt]) h.inRange]; rfl

/-- `consume(k)` hands out the first `k` bytes of the slice -/
theorem Rep.consume {c : Chunked (List Item)} {P : Bytes} {rest : List Item} (h : Rep c P rest)
    (k : Nat) : ∃ P', P = (avail c).take k ++ P' ∧ Rep (c.consume k) P' rest := by
  obtain ⟨d, cs, hg, rfl⟩ := h.good
  refine ⟨avail (c.consume k) ++ (d ++ payloadOf cs), ?_, c.consume_inv k, d, cs,
    ⟨hg.failed, hg.reachedEof, hg.wf, hg.remaining, hg.inner⟩, rfl⟩
  rw [avail_consume, ← List.append_assoc (List.take k _), List.take_append_drop]

/-- one `read` while payload is pending -/
theorem step_progress (c : Chunked (List Item)) (P : Bytes) (rest : List Item) (m n : Nat)
    (hm : 0 < m) (hrep : Rep c P rest) (hP : P ≠ []) :
    ∃ out P', (c.read flatSrc m n).1 = .ok out ∧ P = out ++ P' ∧ out.length ≤ n ∧
      (0 < n → out ≠ []) ∧ Rep (c.read flatSrc m n).2 P' rest := by
  obtain ⟨c', hfb, hne, h'⟩ := hrep.fillBuf hP hm
  obtain ⟨P', e, h''⟩ := h'.consume ((avail c').take n).length
  rw [read_of_fillBuf _ _ _ _ n _ hfb]
  rw [List.length_take, ← List.take_eq_take_min] at e
  exact ⟨(avail c').take n, P', rfl, e, List.length_take_le _ _,
    fun hn => take_ne_nil hne (Nat.ne_of_gt hn), h''⟩

/-- all payload handed out: the decoder sits exactly at `rest` -/
theorem rep_nil (c : Chunked (List Item)) (rest : List Item) (h : Rep c [] rest) :
    c.failed = false ∧ c.reachedEof = false ∧ c.buffer.length = c.consumed ∧ c.remaining = 0 ∧
    c.inner = rest := by
  obtain ⟨d, cs, hg, hP⟩ := h.good
  have h1 : avail c = [] ∧ d = [] ∧ payloadOf cs = [] := by simpa using hP.symm
  have hcs : cs = [] := by
    cases cs with
    | nil => rfl
    | cons ch cs =>
      have := (hg.wf ch (by simp)).1
      simp [payloadOf_cons, this] at h1
  refine ⟨hg.failed, hg.reachedEof, (avail_eq_nil_iff c h.inRange).mp h1.1,
    by simp [hg.remaining, h1.2.1], ?_⟩
  simp [hg.inner, h1.2.1, hcs, midI, encChunks, bytesI]

/-! ## The last-chunk and the state after it -/

/-- end of body reached and everything handed out -/
structure Done (c : Chunked σ) : Prop where
  failed : c.failed = false
  empty : c.buffer.length = c.consumed
  remaining : c.remaining = 0
  reachedEof : c.reachedEof = true

theorem fillBuf_done (S : Src σ) (c : Chunked σ) (m : Nat) (h : Done c) :
    c.fillBuf S m = (.ok [], c) := by
  rw [fillBuf_noRefill _ _ _ h.failed (by simp [h.remaining, h.reachedEof]) (by have := h.empty; omega)]
  simp [h.empty]

/-- one `read` after the end of the body: `Ok(0)`, and the decoder stays where it is -/
theorem step_done (S : Src σ) (c : Chunked σ) (m n : Nat) (h : Done c) :
    (c.read S m n).1 = .ok [] ∧ Done (c.read S m n).2 := by
  rw [read_of_fillBuf _ _ _ _ n _ (fillBuf_done S c m h)]
  refine ⟨by simp, h.failed, ?_, h.remaining, h.reachedEof⟩
  simp [Chunked.consume, h.empty]

/-- `fill_buf` at the last-chunk: everything up to `trail` is consumed, nothing is handed out -/
theorem fillBuf_last_eq (c : Chunked (List Item)) (last : LastS) (hl : last.WF L) (trail : List Item)
    (m : Nat) (h : Rep c [] (bytesI last.enc ++ trail)) :
    c.fillBuf flatSrc m =
      (.ok [], { c with inner := trail, buffer := [], consumed := 0, remaining := 0,
                        reachedEof := true }) := by
  obtain ⟨hf, he, hlen, hr, hi⟩ := rep_nil c _ h
  have hi' : c.inner = bytesI (last.zeros ++ last.ext ++ [13, 10] ++ encTrailers last.trailers ++
      [13, 10]) ++ trail := by
    rw [hi]; rfl
  rw [fillBuf_refill_ok _ _ _ m hf (by simp [hlen, he])
    (refill_last c _ _ last.trailers trail m (SizeOK.of_last hl) (TrLinesOK.of_last hl).1
      (TrLinesOK.of_last hl).2 hr hi')
    (by simp)]
  simp [avail]

/-- one `read` once all payload is handed out: the last-chunk is consumed and `Ok(0)` returned -/
theorem step_last (c : Chunked (List Item)) (last : LastS) (hl : last.WF L) (trail : List Item)
    (m n : Nat) (h : Rep c [] (bytesI last.enc ++ trail)) :
    (c.read flatSrc m n).1 = .ok [] ∧ Done (c.read flatSrc m n).2 := by
  rw [read_of_fillBuf _ _ _ _ n _ (fillBuf_last_eq c last hl trail m h)]
  exact ⟨by simp, (rep_nil c _ h).1, by simp [Chunked.consume], rfl, rfl⟩

/-! ## A cut stream against the complete frame

A decoder on a cut stream runs in step with a decoder on a completion of the frame (`CutC`,
`read_cut` in Lemmas/Prog.lean) until it needs a byte behind the cut; then it fails, and latches the
failure. -/

/-- what a decoder in step with the stream has ahead of `rest` is bytes, and `rest` may be
    exchanged -/
theorem Rep.exchange {c : Chunked (List Item)} {P : Bytes} {rest : List Item} (h : Rep c P rest) :
    ∃ u, c.inner = bytesI u ++ rest ∧ ∀ rest', Rep { c with inner := bytesI u ++ rest' } P rest' := by
  obtain ⟨d, cs, hg, hP⟩ := h.good
  refine ⟨(if d = [] then [] else d ++ [13, 10]) ++ encChunks cs, ?_, fun rest' =>
    ⟨h.inRange, d, cs, { hg with inner := ?_ }, hP⟩⟩
  · rw [hg.inner, bytesI_append, List.append_assoc, midI]; split <;> rfl
  · show bytesI _ ++ rest' = _
    rw [bytesI_append, List.append_assoc, midI]; split <;> rfl

/-- one more complete chunk in front of `rest` is payload to come -/
theorem Rep.absorb {c : Chunked (List Item)} {P : Bytes} {rest : List Item} {ch : ChunkS}
    (hc : ch.WF L) (h : Rep c P (bytesI ch.enc ++ rest)) : Rep c (P ++ ch.data) rest := by
  obtain ⟨d, cs, hg, hP⟩ := h.good
  refine ⟨h.inRange, d, cs ++ [ch], { hg with wf := ?_, inner := ?_ }, ?_⟩
  · intro x hx
    rcases List.mem_append.mp hx with h | h
    · exact hg.wf x h
    · rw [List.mem_singleton.mp h]; exact hc
  · rw [hg.inner]; simp [encChunks, List.append_assoc]
  · rw [hP]; simp [payloadOf, List.append_assoc]

/-- The decoder `c` runs on a cut stream (`tail` is `Dead`) in step with a decoder `cf` on a
    completion of the frame that still owes `P`: an upper bound of what `c` can still hand out. -/
structure TRep (tail : List Item) (c : Chunked (List Item)) (P : Bytes) : Prop where
  inRange : c.consumed ≤ c.buffer.length
  cut : ∃ (cf : Chunked (List Item)) (F : List Item) (last : LastS) (trail : List Item),
    CutC tail F cf c ∧ trail.length < F.length ∧ last.WF L ∧ Rep cf P (bytesI last.enc ++ trail)

/-- one `read` on a cut stream: a non-empty piece of genuine data, or a latched failure. The
    complete side cannot reach the end of the frame in step: some of it lies behind the cut. -/
theorem step_trunc (tail : List Item) (hd : Dead tail) (c : Chunked (List Item)) (P : Bytes)
    (m n : Nat) (hm : 0 < m) (hrep : TRep tail c P) :
    (∃ out P', (c.read flatSrc m n).1 = .ok out ∧ P = out ++ P' ∧ (0 < n → out ≠ []) ∧
      TRep tail (c.read flatSrc m n).2 P') ∨
    ((c.read flatSrc m n).1.Bad ∧ (c.read flatSrc m n).2.failed = true) := by
  obtain ⟨cf, F, last, trail, hc, hF, hl, hr⟩ := hrep.cut
  rcases read_cut hd hc m n with ⟨e, hc'⟩ | hb
  · left
    by_cases hP : P = []
    · subst hP
      obtain ⟨u, e1, _⟩ := hc'.2
      rw [read_of_fillBuf _ _ _ _ n _ (fillBuf_last_eq cf last hl trail m hr)] at e1
      change trail = _ at e1
      have := congrArg List.length e1
      simp only [List.length_append] at this
      omega
    · obtain ⟨out, P', h1, rfl, _, hne, hr'⟩ := step_progress cf P _ m n hm hr hP
      exact ⟨out, P', by rw [← e, h1], rfl, hne, (read_flat_ne_panic c m n hrep.inRange).2, _, F, last,
        trail, hc', hF, hl, hr'⟩
  · exact .inr hb

/-- a terminator to complete a frame that is cut inside a chunk -/
def last0 : LastS := ⟨[48], [], []⟩

theorem last0_wf : last0.WF L :=
  ⟨by simp [last0], by simp [last0], .inl rfl, by simp [last0], by decide, by simp [last0],
    Nat.zero_le _⟩

/-- the stream is cut inside a chunk that follows what the decoder is in step with: the data of
    that chunk may still come -/
theorem trep_chunk (tail : List Item) (c : Chunked (List Item)) (P part : Bytes) (ch : ChunkS)
    (hc : ch.WF L) (hlen : part.length < ch.enc.length) (hpre : part <+: ch.enc)
    (hrep : Rep c P (bytesI part ++ tail)) : TRep tail c (P ++ ch.data) := by
  obtain ⟨v, hv⟩ := hpre
  have hvl : 0 < v.length := by
    have := congrArg List.length hv; simp only [List.length_append] at this; omega
  obtain ⟨u, hi, hex⟩ := hrep.exchange
  refine ⟨hrep.inRange, { c with inner := bytesI u ++ (bytesI ch.enc ++ (bytesI last0.enc ++ [])) },
    bytesI v ++ (bytesI last0.enc ++ []), last0, [],
    ⟨rfl, u ++ part, ?_, by rw [hi, bytesI_append, List.append_assoc]⟩, ?_, last0_wf,
    Rep.absorb hc (hex (bytesI ch.enc ++ (bytesI last0.enc ++ [])))⟩
  · show bytesI u ++ (bytesI ch.enc ++ _) = _
    rw [← hv, bytesI_append, bytesI_append]
    simp only [List.append_assoc]
  · simp only [List.length_append, bytesI_length, List.length_nil]; omega

/-- the stream is cut inside the last-chunk: nothing more may come -/
theorem trep_last (tail : List Item) (c : Chunked (List Item)) (P part : Bytes) (l : LastS)
    (hl : l.WF L) (hlen : part.length < l.enc.length) (hpre : part <+: l.enc)
    (hrep : Rep c P (bytesI part ++ tail)) : TRep tail c P := by
  obtain ⟨v, hv⟩ := hpre
  have hvl : 0 < v.length := by
    have := congrArg List.length hv; simp only [List.length_append] at this; omega
  obtain ⟨u, hi, hex⟩ := hrep.exchange
  refine ⟨hrep.inRange, { c with inner := bytesI u ++ (bytesI l.enc ++ []) }, bytesI v, l, [],
    ⟨rfl, u ++ part, ?_, by rw [hi, bytesI_append, List.append_assoc]⟩, ?_, hl,
    hex (bytesI l.enc ++ [])⟩
  · show bytesI u ++ (bytesI l.enc ++ []) = _
    rw [← hv, bytesI_append, bytesI_append]
    simp only [List.append_assoc, List.append_nil]
  · simpa [bytesI_length] using hvl

/-- a fresh decoder in front of complete chunks and a cut one (or a cut last-chunk): the invariant
    of the cut frame, with the data `d` of the cut chunk as what may still come -/
theorem trep_fresh (cs : List ChunkS) (hcs : ∀ c ∈ cs, c.WF L) (part : Bytes) (tail : List Item)
    (hp : (∃ c : ChunkS, c.WF L ∧ part.length < c.enc.length ∧ part <+: c.enc) ∨
          (∃ l : LastS, l.WF L ∧ part.length < l.enc.length ∧ part <+: l.enc)) :
    ∃ d, ((∃ c : ChunkS, c.WF L ∧ part.length < c.enc.length ∧ part <+: c.enc ∧ d = c.data) ∨
          (d = [] ∧ ∃ l : LastS, l.WF L ∧ part.length < l.enc.length ∧ part <+: l.enc)) ∧
      TRep tail (fresh (bytesI (encChunks cs ++ part) ++ tail)) (payloadOf cs ++ d) := by
  have hrep : Rep (fresh (bytesI (encChunks cs ++ part) ++ tail)) (payloadOf cs)
      (bytesI part ++ tail) := by
    rw [bytesI_append, List.append_assoc]; exact rep_fresh cs hcs _
  rcases hp with ⟨c, hc, hlen, hpre⟩ | ⟨l, hl, hlen, hpre⟩
  · exact ⟨c.data, .inl ⟨c, hc, hlen, hpre, rfl⟩, trep_chunk _ _ _ part c hc hlen hpre hrep⟩
  · exact ⟨[], .inr ⟨rfl, l, hl, hlen, hpre⟩, by
      rw [List.append_nil]; exact trep_last _ _ _ part l hl hlen hpre hrep⟩

end Atto
