/-
  Atto/Lemmas/WatchdogLemmas.lean — the deadline watchdog model (Atto/Model/Watchdog.lean) as a
  transition system, used by Atto/Props/C13.lean.  In this order:

  * the transition system — `Step` : one labelled transition (clock advance, peer send — only while
    the socket is not shut —, peer close, a read with a non-empty buffer, dropping the response);
    `Trace` : a labelled run; `Reach s0 s` : some run leads from `s0` to `s`;
  * `ping` and `read` by cases — `wd_ping_eq`, `ReadCase`, `wd_read_cases`;
  * the invariant `Inv` of every state reachable from `init d rt` (`wd_inv_of_init`);
  * `fireIfDue` and `advance` as equations — `wd_fire_eq`, `wd_adv_eq` and their special cases;
  * one read, what it returns and what it changes — `wd_timedOut_sound`, `wd_eof_genuine`, `wd_cut`,
    `wd_read_genuine`, `wd_read_hasTx`, `wd_read_time`, `wd_read_immediate`,
    `wd_read_shut_immediate`, `wd_read_deadline`;
  * after end of stream — `Done`, `wd_done_read`, `wd_done_run`;
  * along a trace — `wd_trace_hasTx`, `wd_deadline_reach`, release (`wd_drop_exited`,
    `wd_exited_step`), a caller that only reads (`ReadsInv`, `wd_reads_bounded`);
  * scenarios (`run`) — their byte counts (`wd_bytes`, `wd_delivered`, `wd_sent`), and as traces
    (`wd_exec`, `wd_exec_reach`, `wd_run_append`).

  Note on `WdState.droppedRx`: the model fires atomically (`fireIfDue` goes from `waiting` straight
  to `fired` and sets `shut` in the same step), so no function of the model ever produces
  `droppedRx`; the invariant records `wd ≠ droppedRx`.
-/
import Atto.Model.Watchdog
namespace Atto
namespace Wd

/-! ### the transition system -/

/-- the initial state: watchdog installed and waiting, reader holds its sender -/
def init (d rt : Nat) : St := { now := 0, deadline := d, readTimeout := rt }

/-- labels of the transitions; a read carries its buffer size and what it returned -/
inductive Lbl where
  | adv (t : Nat)
  | send (n : Nat)
  | close
  | read (n : Nat) (o : RdOut)
  | drop
  deriving Repr, DecidableEq

inductive Step : St → Lbl → St → Prop where
  | adv (s : St) (t : Nat) : Step s (.adv t) (advance s t)
  | send (s : St) (n : Nat) : s.shut = false → Step s (.send n) { s with queued := s.queued + n }
  | close (s : St) : Step s .close { s with peerClosed := true }
  | read (s : St) (n : Nat) : 0 < n → Step s (.read n (read s n).1) (read s n).2
  | drop (s : St) : Step s .drop (dropResponse s)

inductive Trace : St → List Lbl → St → Prop where
  | nil (s : St) : Trace s [] s
  | cons {s s1 s2 : St} {a : Lbl} {l : List Lbl} : Step s a s1 → Trace s1 l s2 → Trace s (a :: l) s2

/-- `s` is reachable from `s0` by some sequence of transitions -/
def Reach (s0 : St) (s : St) : Prop := ∃ l, Trace s0 l s

theorem Trace.append {s s1 s2 : St} {l1 l2 : List Lbl} (h1 : Trace s l1 s1) (h2 : Trace s1 l2 s2) :
    Trace s (l1 ++ l2) s2 := by
  induction h1 with
  | nil _ => exact h2
  | cons st _ ih => exact .cons st (ih h2)

theorem Reach.refl (s : St) : Reach s s := ⟨[], .nil s⟩

theorem Reach.step {s0 s s' : St} {a : Lbl} (h : Reach s0 s) (st : Step s a s') : Reach s0 s' := by
  obtain ⟨l, hl⟩ := h
  exact ⟨l ++ [a], hl.append (.cons st (.nil _))⟩

theorem Reach.trans {s0 s s' : St} (h : Reach s0 s) (h' : Reach s s') : Reach s0 s' := by
  obtain ⟨l, hl⟩ := h; obtain ⟨l', hl'⟩ := h'
  exact ⟨l ++ l', hl.append hl'⟩

/-- induction over the event sequence -/
theorem Reach.preserves {P : St → Prop} (hstep : ∀ s a s', P s → Step s a s' → P s')
    {s s' : St} (h : Reach s s') : P s → P s' := by
  obtain ⟨l, hl⟩ := h
  induction hl with
  | nil _ => exact id
  | cons st _ ih => exact fun hp => ih (hstep _ _ _ hp st)

/-! ### `ping` and `read`, by cases -/

/-- with the sender held, the ping succeeds iff the watchdog is still waiting; it then stands down -/
theorem wd_ping_eq {s : St} (hx : s.hasTx = true) :
    ping s = if s.wd = .waiting then (true, { s with wd := .exited, hasTx := false }) else (false, s) := by
  unfold ping
  rw [hx]
  cases s.wd <;> rfl

/-- The seven ways a `read` can go, in terms of `s1 = fireIfDue s`. -/
inductive ReadCase (s1 : St) (n : Nat) : RdOut × St → Prop where
  | buffered : 0 < s1.buffered →
      ReadCase s1 n (.data (min n s1.buffered), { s1 with buffered := s1.buffered - min n s1.buffered })
  | socket : s1.buffered = 0 → 0 < s1.queued →
      ReadCase s1 n (.data (min n (min (max n s1.bufCap) s1.queued)),
        { s1 with queued := s1.queued - min (max n s1.bufCap) s1.queued,
                  buffered := if n < s1.bufCap then min (max n s1.bufCap) s1.queued
                    - min n (min (max n s1.bufCap) s1.queued) else 0 })
  | eofReleased : s1.buffered = 0 → s1.queued = 0 → (s1.peerClosed = true ∨ s1.shut = true) →
      s1.hasTx = false → ReadCase s1 n (.eof, s1)
  | eofGenuine : s1.buffered = 0 → s1.queued = 0 → (s1.peerClosed = true ∨ s1.shut = true) →
      s1.hasTx = true → s1.wd = .waiting → ReadCase s1 n (.eof, { s1 with wd := .exited, hasTx := false })
  | pingFailed : s1.buffered = 0 → s1.queued = 0 → (s1.peerClosed = true ∨ s1.shut = true) →
      s1.hasTx = true → s1.wd ≠ .waiting → ReadCase s1 n (.timedOut, s1)
  | woken : s1.buffered = 0 → s1.queued = 0 → s1.peerClosed = false → s1.shut = false →
      s1.wd = .waiting → s1.hasTx = true → s1.deadline ≤ s1.now + s1.readTimeout →
      ReadCase s1 n (.timedOut, advance s1 s1.deadline)
  | rcvTimeout : s1.buffered = 0 → s1.queued = 0 → s1.peerClosed = false → s1.shut = false →
      ¬ (s1.wd = .waiting ∧ s1.hasTx = true ∧ s1.deadline ≤ s1.now + s1.readTimeout) →
      ReadCase s1 n (.wouldBlock, advance s1 (s1.now + s1.readTimeout))

theorem wd_read_cases (s : St) (n : Nat) : ReadCase (fireIfDue s) n (read s n) := by
  unfold read
  generalize fireIfDue s = s1
  simp only
  split
  · next h => exact .buffered h
  next hb =>
  split
  · next h => exact .socket (by omega) h
  next hq =>
  split
  · next hc =>
    have hc' : s1.peerClosed = true ∨ s1.shut = true := hc
    split
    · next hx =>
      rw [wd_ping_eq hx]
      by_cases hw : s1.wd = .waiting
      · rw [if_pos hw]; exact .eofGenuine (by omega) (by omega) hc' hx hw
      · rw [if_neg hw]; exact .pingFailed (by omega) (by omega) hc' hx hw
    · next hx => exact .eofReleased (by omega) (by omega) hc' (by simpa using hx)
  · next hc =>
    have h1 : s1.peerClosed = false := Bool.eq_false_iff.mpr fun h => hc (.inl h)
    have h2 : s1.shut = false := Bool.eq_false_iff.mpr fun h => hc (.inr h)
    split
    · next hw => exact .woken (by omega) (by omega) h1 h2 hw.1 hw.2.1 hw.2.2
    · next hw => exact .rcvTimeout (by omega) (by omega) h1 h2 hw

/-! ### the invariant -/

structure Inv (s : St) : Prop where
  noDropped : s.wd ≠ .droppedRx
  fired_shut : s.wd = .fired → s.shut = true
  shut_fired : s.shut = true → s.wd = .fired
  fired_due : s.wd = .fired → s.deadline ≤ s.now
  exited_noTx : s.wd = .exited → s.hasTx = false
  waiting_tx : s.wd = .waiting → s.hasTx = true

/-- the response is alive only while the watchdog is armed or has fired -/
theorem Inv.alive {s : St} (h : Inv s) (hx : s.hasTx = true) : s.wd = .waiting ∨ s.wd = .fired := by
  cases hw : s.wd with
  | waiting => exact .inl rfl
  | fired => exact .inr rfl
  | droppedRx => exact absurd hw h.noDropped
  | exited => have := h.exited_noTx hw; rw [hx] at this; cases this

/-- `Inv` reads `wd`, `shut`, `hasTx`, and of the clock only whether the deadline has been reached -/
theorem Inv.congr {s s' : St} (h : Inv s) (hw : s'.wd = s.wd) (hs : s'.shut = s.shut)
    (hx : s'.hasTx = s.hasTx) (hd : s.deadline ≤ s.now → s'.deadline ≤ s'.now) : Inv s' :=
  ⟨hw ▸ h.noDropped, fun hf => hs ▸ h.fired_shut (hw ▸ hf), fun h2 => hw ▸ h.shut_fired (hs ▸ h2),
    fun hf => hd (h.fired_due (hw ▸ hf)), fun he => hx ▸ h.exited_noTx (hw ▸ he),
    fun hwt => hx ▸ h.waiting_tx (hw ▸ hwt)⟩

theorem wd_inv_fireIfDue {s : St} (h : Inv s) : Inv (fireIfDue s) := by
  unfold fireIfDue
  split
  · next hc => exact ⟨nofun, fun _ => rfl, fun _ => rfl, fun _ => hc.2, nofun, nofun⟩
  · exact h

theorem wd_inv_advance {s : St} (h : Inv s) (t : Nat) : Inv (advance s t) :=
  wd_inv_fireIfDue (h.congr rfl rfl rfl fun hd => by simp only; omega)

theorem wd_inv_read {s : St} (h : Inv s) (n : Nat) : Inv (read s n).2 := by
  have hc := wd_read_cases s n
  have hi := wd_inv_fireIfDue h
  generalize read s n = r at hc
  cases hc with
  | eofGenuine _ _ _ _ hw =>
    exact ⟨nofun, nofun, (fun hs => nomatch (hi.shut_fired hs).symm.trans hw), nofun, fun _ => rfl,
      nofun⟩
  | woken | rcvTimeout => exact wd_inv_advance hi _
  | _ => exact hi.congr rfl rfl rfl id

theorem wd_inv_step {s s' : St} {a : Lbl} (h : Inv s) (st : Step s a s') : Inv s' := by
  cases st with
  | adv t => exact wd_inv_advance h t
  | send | close => exact h.congr rfl rfl rfl id
  | read n hn => exact wd_inv_read h n
  | drop =>
    unfold dropResponse
    by_cases hw : s.wd = .waiting
    · rw [if_pos hw]
      exact ⟨nofun, nofun, (fun hs => nomatch (h.shut_fired hs).symm.trans hw), nofun, fun _ => rfl,
        nofun⟩
    · rw [if_neg hw]
      exact ⟨h.noDropped, h.fired_shut, h.shut_fired, h.fired_due, fun _ => rfl,
        fun h' => absurd h' hw⟩

theorem wd_inv_of_init {d rt : Nat} {s : St} (r : Reach (init d rt) s) : Inv s :=
  r.preserves (fun _ _ _ hp st => wd_inv_step hp st) (by constructor <;> simp [init])

/-! ### `fireIfDue` and `advance` as equations -/

/-- `fireIfDue` touches `wd` and `shut` only -/
@[simp] theorem wd_fire_eq (s : St) :
    fireIfDue s = { s with
      wd := if s.wd = .waiting ∧ s.deadline ≤ s.now then .fired else s.wd,
      shut := decide (s.wd = .waiting ∧ s.deadline ≤ s.now) || s.shut } := by
  unfold fireIfDue; split <;> simp [*]

theorem wd_fire_of_not_waiting {s : St} (h : s.wd ≠ .waiting) : fireIfDue s = s := by
  unfold fireIfDue; simp [h]

theorem wd_fire_of_early {s : St} (h : s.now < s.deadline) : fireIfDue s = s := by
  unfold fireIfDue; rw [if_neg]; intro ⟨_, h2⟩; omega

/-- after `fireIfDue` a waiting watchdog has its deadline in the future -/
theorem wd_fire_waiting {s : St} (h : (fireIfDue s).wd = .waiting) : s.now < s.deadline ∧ fireIfDue s = s := by
  unfold fireIfDue at h ⊢
  split at h
  · cases h
  · next hc =>
    rw [if_neg hc]
    exact ⟨Nat.lt_of_not_le (fun h2 => hc ⟨h, h2⟩), rfl⟩

theorem wd_fire_shut_mono {s : St} (h : s.shut = true) : (fireIfDue s).shut = true := by
  unfold fireIfDue; split <;> simp [h]

theorem wd_fire_idem (s : St) : fireIfDue (fireIfDue s) = fireIfDue s := by
  unfold fireIfDue; split <;> simp_all

theorem wd_fire_due_shut {s : St} (h : Inv s) (hd : s.deadline ≤ s.now)
    (hw : s.wd = .waiting ∨ s.wd = .fired) : (fireIfDue s).shut = true := by
  rcases hw with hw | hw
  · unfold fireIfDue; rw [if_pos ⟨hw, hd⟩]
  · exact wd_fire_shut_mono (h.fired_shut hw)

/-- `advance` moves the clock, and then `wd` and `shut` as `fireIfDue` does -/
@[simp] theorem wd_adv_eq (s : St) (t : Nat) :
    advance s t = { s with
      now := max s.now t,
      wd := if s.wd = .waiting ∧ s.deadline ≤ max s.now t then .fired else s.wd,
      shut := decide (s.wd = .waiting ∧ s.deadline ≤ max s.now t) || s.shut } := by
  simp [advance]

/-- the clock reaches the deadline of an armed watchdog: it fires -/
theorem wd_adv_fires {s : St} (hw : s.wd = .waiting) :
    advance s s.deadline = { s with now := max s.now s.deadline, wd := .fired, shut := true } := by
  unfold advance fireIfDue
  rw [if_pos ⟨hw, Nat.le_max_right ..⟩]

theorem wd_adv_shut_mono {s : St} (t : Nat) (h : s.shut = true) : (advance s t).shut = true := by
  unfold advance; exact wd_fire_shut_mono h

theorem wd_adv_of_not_waiting {s : St} (t : Nat) (h : s.wd ≠ .waiting) :
    advance s t = { s with now := max s.now t } := by
  unfold advance; exact wd_fire_of_not_waiting h

/-! ### one read: what it returns and what it changes -/

theorem wd_timedOut_sound {s s' : St} {n : Nat} (h : Inv s) (hr : read s n = (.timedOut, s')) :
    s'.deadline ≤ s'.now ∧ s'.wd = .fired ∧ s'.shut = true := by
  have hc := wd_read_cases s n
  rw [hr] at hc
  have hi := wd_inv_fireIfDue h
  generalize fireIfDue s = s1 at hc hi
  cases hc with
  | pingFailed _ _ _ hx hw =>
    have hf : s'.wd = .fired := (hi.alive hx).resolve_left hw
    exact ⟨hi.fired_due hf, hf, hi.fired_shut hf⟩
  | woken _ _ _ _ hw _ _ =>
    rw [wd_adv_fires hw]
    exact ⟨Nat.le_max_right .., rfl, rfl⟩

/-- the converse reading for `eof`: with the sender still held, `Ok(0)` is passed on only if the
    peer closed, the socket is not shut, and the deadline has not been reached; the watchdog is told
    to stand down -/
theorem wd_eof_genuine {s s' : St} {n : Nat} (h : Inv s) (hx : s.hasTx = true)
    (hr : read s n = (.eof, s')) :
    s.peerClosed = true ∧ s.shut = false ∧ s.now < s.deadline ∧ s'.wd = .exited ∧ s'.shut = false ∧
      s'.hasTx = false ∧ s'.now = s.now := by
  have hc := wd_read_cases s n
  rw [hr] at hc
  have hi := wd_inv_fireIfDue h
  generalize hs1 : fireIfDue s = s1 at hc hi
  cases hc with
  | eofReleased _ _ _ hx' => simp [← hs1, hx] at hx'
  | eofGenuine _ _ hcl _ hw =>
    obtain ⟨hlt, hid⟩ := wd_fire_waiting (s := s) (by rw [hs1]; exact hw)
    rw [hs1] at hid; subst hid
    have hns : s1.shut = false := by
      cases hsh : s1.shut with
      | false => rfl
      | true => have := hi.shut_fired hsh; rw [hw] at this; cases this
    have hpc : s1.peerClosed = true := by simpa [hns] using hcl
    exact ⟨hpc, hns, hlt, rfl, hns, rfl, rfl⟩

/-- the socket shut by the watchdog, nothing left to deliver, the response alive: the ping fails -/
theorem wd_cut {s : St} (n : Nat) (hf : s.wd = .fired) (hs : s.shut = true)
    (hq : s.queued = 0) (hb : s.buffered = 0) (hx : s.hasTx = true) : read s n = (.timedOut, s) := by
  unfold read
  rw [wd_fire_of_not_waiting (by rw [hf]; nofun)]
  simp [ping, hf, hs, hq, hb, hx]

/-- the peer has closed before the deadline, nothing left to deliver: the ping releases the watchdog -/
theorem wd_read_genuine {s : St} (n : Nat) (hlt : s.now < s.deadline) (hw : s.wd = .waiting)
    (hx : s.hasTx = true) (hc : s.peerClosed = true) (hq : s.queued = 0) (hb : s.buffered = 0) :
    read s n = (.eof, { s with wd := .exited, hasTx := false }) := by
  unfold read
  rw [wd_fire_of_early hlt]
  simp [ping, hw, hc, hq, hb, hx]

/-- a read that does not return `eof` leaves the sender where it is -/
theorem wd_read_hasTx {s : St} {n : Nat} (hx : s.hasTx = true) (hne : (read s n).1 ≠ .eof) :
    (read s n).2.hasTx = true := by
  have hc := wd_read_cases s n
  have hx1 : (fireIfDue s).hasTx = true := by rw [wd_fire_eq]; exact hx
  generalize read s n = r at hc hne
  cases hc with
  | eofReleased => exact absurd rfl hne
  | eofGenuine => exact absurd rfl hne
  | woken => rw [wd_adv_eq]; exact hx1
  | rcvTimeout => rw [wd_adv_eq]; exact hx1
  | _ => exact hx1

theorem wd_read_time (s : St) (n : Nat) :
    s.now ≤ (read s n).2.now ∧ (read s n).2.now ≤ s.now + s.readTimeout ∧
    (s.wd = .waiting → s.hasTx = true → (read s n).2.now ≤ max s.now s.deadline) := by
  have hc := wd_read_cases s n
  have e1 : (fireIfDue s).now = s.now := by rw [wd_fire_eq]
  have e2 : (fireIfDue s).deadline = s.deadline := by rw [wd_fire_eq]
  have e3 : (fireIfDue s).readTimeout = s.readTimeout := by rw [wd_fire_eq]
  have e4 : (fireIfDue s).hasTx = s.hasTx := by rw [wd_fire_eq]
  have e5 : (fireIfDue s).wd = .waiting ∨ (fireIfDue s).shut = true ∨ s.wd ≠ .waiting := by
    unfold fireIfDue
    split
    · exact .inr (.inl rfl)
    · cases hw : s.wd <;> simp
  generalize read s n = r at hc
  generalize fireIfDue s = s1 at hc e1 e2 e3 e4 e5
  cases hc with
  | woken => simp only [wd_adv_eq]; omega
  | rcvTimeout _ _ _ hs hn =>
    simp only [wd_adv_eq]
    refine ⟨by omega, by omega, fun hw hx => ?_⟩
    rcases e5 with h | h | h
    · have : ¬ s1.deadline ≤ s1.now + s1.readTimeout := fun hd => hn ⟨h, by rw [e4]; exact hx, hd⟩
      omega
    · rw [hs] at h; cases h
    · exact absurd hw h
  | _ => simp only; omega

/-- at or after the deadline, with the response alive: the read returns at once, with data or with
    `TimedOut` -/
theorem wd_read_immediate {s : St} (h : Inv s) (n : Nat) (hx : s.hasTx = true)
    (hd : s.deadline ≤ s.now) :
    (read s n).2.now = s.now ∧ ((∃ k, (read s n).1 = .data k) ∨ (read s n).1 = .timedOut) := by
  have hc := wd_read_cases s n
  have hi := wd_inv_fireIfDue h
  have e1 : (fireIfDue s).now = s.now := by rw [wd_fire_eq]
  have e4 : (fireIfDue s).hasTx = true := by rw [wd_fire_eq]; exact hx
  have hsh := wd_fire_due_shut h hd (h.alive hx)
  have e5 := hi.shut_fired hsh
  generalize read s n = r at hc
  cases hc with
  | buffered => exact ⟨e1, .inl ⟨_, rfl⟩⟩
  | socket => exact ⟨e1, .inl ⟨_, rfl⟩⟩
  | eofReleased _ _ _ hx' => rw [e4] at hx'; cases hx'
  | eofGenuine _ _ _ _ hw => rw [e5] at hw; cases hw
  | pingFailed => exact ⟨e1, .inr rfl⟩
  | woken _ _ _ hs => rw [hsh] at hs; cases hs
  | rcvTimeout _ _ _ hs => rw [hsh] at hs; cases hs

/-- once the socket is shut (possibly by the firing that this very read observes) no read blocks -/
theorem wd_read_shut_immediate {s : St} (n : Nat) (h : (fireIfDue s).shut = true) :
    (read s n).2.now = s.now ∧ (read s n).1 ≠ .wouldBlock := by
  have hc := wd_read_cases s n
  have e1 : (fireIfDue s).now = s.now := by rw [wd_fire_eq]
  generalize read s n = r at hc
  cases hc with
  | woken _ _ _ hs => rw [h] at hs; cases hs
  | rcvTimeout _ _ _ hs => rw [h] at hs; cases hs
  | _ => exact ⟨e1, nofun⟩

theorem wd_read_deadline (s : St) (n : Nat) : (read s n).2.deadline = s.deadline := by
  have hc := wd_read_cases s n
  have e2 : (fireIfDue s).deadline = s.deadline := by rw [wd_fire_eq]
  generalize read s n = r at hc
  cases hc <;> simp only [wd_adv_eq] <;> omega

/-! ### after end of stream -/

/-- the stream has ended and the reader no longer holds its sender -/
def Done (s : St) : Prop :=
  s.hasTx = false ∧ s.buffered = 0 ∧ s.queued = 0 ∧ (s.peerClosed = true ∨ s.shut = true)

theorem wd_done_of_eof {s s' : St} {n : Nat} (hr : read s n = (.eof, s')) : Done s' := by
  have hc := wd_read_cases s n
  rw [hr] at hc
  cases hc with
  | eofReleased h1 h2 h3 h4 => exact ⟨h4, h1, h2, h3⟩
  | eofGenuine h1 h2 h3 _ _ => exact ⟨rfl, h1, h2, h3⟩

theorem wd_done_fire {s : St} (h : Done s) : Done (fireIfDue s) := by
  obtain ⟨h1, h2, h3, h4⟩ := h
  refine ⟨?_, ?_, ?_, h4.imp (fun h => ?_) wd_fire_shut_mono⟩
  all_goals rw [wd_fire_eq]; assumption

theorem wd_done_read {s : St} (h : Done s) (n : Nat) : read s n = (.eof, fireIfDue s) := by
  obtain ⟨h1, h2, h3, h4⟩ := wd_done_fire h
  simp only [read, h2, h3, Nat.lt_irrefl, if_false, h4, if_true, h1]
  rfl

/-- number of read events of a scenario -/
def wd_readCount : List (Nat × Ev) → Nat
  | [] => 0
  | (_, .read _) :: rest => wd_readCount rest + 1
  | _ :: rest => wd_readCount rest

def wd_isSend : Ev → Bool
  | .send _ => true
  | _ => false

theorem wd_done_run {s : St} (h : Done s) (evs : List (Nat × Ev))
    (hns : ∀ e ∈ evs, wd_isSend e.2 = false) :
    run s evs = List.replicate (wd_readCount evs) .eof := by
  induction evs generalizing s with
  | nil => rfl
  | cons e rest ih =>
    obtain ⟨t, ev⟩ := e
    have hrest : ∀ e ∈ rest, wd_isSend e.2 = false := fun e he => hns e (List.mem_cons_of_mem _ he)
    have ha : Done (advance s t) := wd_done_fire (s := { s with now := max s.now t }) h
    cases ev with
    | send k => have := hns (t, .send k) (List.mem_cons_self ..); simp [wd_isSend] at this
    | close =>
      simp only [run, wd_readCount]
      exact ih (s := { advance s t with peerClosed := true })
        ⟨ha.1, ha.2.1, ha.2.2.1, .inl rfl⟩ hrest
    | read k =>
      simp only [run, wd_readCount, wd_done_read ha k, List.replicate_succ]
      rw [ih (wd_done_fire ha) hrest]
    | drop =>
      simp only [run, wd_readCount]
      exact ih (s := dropResponse _) ⟨rfl, ha.2⟩ hrest

/-! ### along a trace: the sender, the deadline, release, a caller that only reads -/

theorem wd_trace_hasTx {s s' : St} {l : List Lbl} (tr : Trace s l s') (hx : s.hasTx = true)
    (hd : Lbl.drop ∉ l) (he : ∀ n, Lbl.read n .eof ∉ l) : s'.hasTx = true := by
  induction tr with
  | nil _ => exact hx
  | cons st _ ih =>
    refine ih ?_ (fun h => hd (List.mem_cons_of_mem _ h)) (fun n h => he n (List.mem_cons_of_mem _ h))
    cases st with
    | adv t => rw [wd_adv_eq]; exact hx
    | send n _ => exact hx
    | close => exact hx
    | read n _ => exact wd_read_hasTx hx (fun h => he n (h ▸ List.mem_cons_self ..))
    | drop => exact absurd (List.mem_cons_self ..) hd

/-- no transition moves the deadline -/
theorem wd_deadline_reach {s s' : St} (r : Reach s s') : s'.deadline = s.deadline :=
  r.preserves (P := fun x => x.deadline = s.deadline) (fun x a x' hp st => by
    cases st with
    | adv t => simpa using hp
    | read n _ => rw [wd_read_deadline]; exact hp
    | _ => exact hp) rfl

theorem wd_drop_exited {s : St} (h : Inv s) (hs : s.shut = false) :
    (dropResponse s).wd = .exited ∧ (dropResponse s).shut = false := by
  refine ⟨?_, hs⟩
  simp only [dropResponse]
  split
  · rfl
  · next hw =>
    cases hwd : s.wd with
    | waiting => exact absurd hwd hw
    | droppedRx => exact absurd hwd h.noDropped
    | exited => rfl
    | fired => have := h.fired_shut hwd; rw [hs] at this; cases this

theorem wd_exited_step {s s' : St} {a : Lbl} (st : Step s a s') (h : s.wd = .exited) :
    s'.wd = .exited ∧ s'.shut = s.shut := by
  have hnw : s.wd ≠ .waiting := by rw [h]; simp
  cases st with
  | adv t => rw [wd_adv_of_not_waiting _ hnw]; exact ⟨h, rfl⟩
  | send n _ => exact ⟨h, rfl⟩
  | close => exact ⟨h, rfl⟩
  | read n _ =>
    have hc := wd_read_cases s n
    rw [wd_fire_of_not_waiting hnw] at hc
    generalize read s n = r at hc
    cases hc with
    | eofGenuine _ _ _ _ hw => exact absurd hw hnw
    | woken _ _ _ _ hw => exact absurd hw hnw
    | rcvTimeout => rw [wd_adv_of_not_waiting _ hnw]; exact ⟨h, rfl⟩
    | _ => exact ⟨h, rfl⟩
  | drop => simp only [dropResponse]; rw [if_neg hnw]; exact ⟨h, trivial⟩

/-- the loop invariant of a caller that only reads: the response is alive or the stream is done,
    and the clock has not passed `B` -/
def ReadsInv (B : Nat) (x : St) : Prop :=
  Inv x ∧ (x.hasTx = true ∨ Done x) ∧ x.now ≤ B ∧ x.deadline ≤ B

theorem wd_readsInv_read {B : Nat} {x : St} (h : ReadsInv B x) (n : Nat) : ReadsInv B (read x n).2 := by
  obtain ⟨hi, hor, hb, hdl⟩ := h
  refine ⟨wd_inv_read hi n, ?_, ?_, by rw [wd_read_deadline]; exact hdl⟩
  · rcases hor with hx0 | hdone
    · by_cases hout : (read x n).1 = .eof
      · exact .inr (wd_done_of_eof (n := n) (by rw [← hout]))
      · exact .inl (wd_read_hasTx hx0 hout)
    · rw [wd_done_read hdone n]; exact .inr (wd_done_fire hdone)
  · rcases hor with hx0 | hdone
    · have ht := wd_read_time x n
      rcases hi.alive hx0 with hw | hw
      · have := ht.2.2 hw hx0; omega
      · have := (wd_read_immediate hi n hx0 (hi.fired_due hw)).1
        omega
    · rw [wd_done_read hdone n]; simpa using hb

/-- a caller doing nothing but reads is never kept past `max now deadline` while the response is
    alive (or ended by a genuine end of stream) -/
theorem wd_reads_bounded {s s' : St} {l : List Lbl} (h : Inv s) (hx : s.hasTx = true)
    (tr : Trace s l s') (hl : ∀ a ∈ l, ∃ n o, a = .read n o) : s'.now ≤ max s.now s.deadline := by
  have key : ∀ {x x' : St} {l : List Lbl}, Trace x l x' → (∀ a ∈ l, ∃ n o, a = .read n o) →
      ReadsInv (max s.now s.deadline) x → ReadsInv (max s.now s.deadline) x' := by
    intro x x' l tr
    induction tr with
    | nil _ => exact fun _ hp => hp
    | cons st _ ih =>
      intro hl hp
      obtain ⟨n, o, ha⟩ := hl _ (List.mem_cons_self ..)
      subst ha
      cases st with
      | read n hn => exact ih (fun a ha => hl a (List.mem_cons_of_mem _ ha)) (wd_readsInv_read hp n)
  exact (key tr hl ⟨h, .inl hx, by omega, by omega⟩).2.2.1

/-! ### scenarios (`run`): their byte counts, and as traces -/

def wd_bytes : RdOut → Nat
  | .data k => k
  | _ => 0

def wd_delivered : List RdOut → Nat
  | [] => 0
  | o :: os => wd_bytes o + wd_delivered os

def wd_sent : List (Nat × Ev) → Nat
  | [] => 0
  | (_, .send n) :: rest => n + wd_sent rest
  | _ :: rest => wd_sent rest

/-- the state after a scenario -/
def wd_exec : St → List (Nat × Ev) → St
  | s, [] => s
  | s, (t, ev) :: rest =>
    let s := advance s t
    match ev with
    | .send n => wd_exec (if s.shut then s else { s with queued := s.queued + n }) rest
    | .close => wd_exec { s with peerClosed := true } rest
    | .read n => wd_exec (read s n).2 rest
    | .drop => wd_exec (dropResponse s) rest

/-- reads have a non-empty buffer -/
def wd_readPos : Ev → Bool
  | .read 0 => false
  | _ => true

theorem wd_exec_reach (s : St) (evs : List (Nat × Ev))
    (hn : ∀ e ∈ evs, wd_readPos e.2 = true) : Reach s (wd_exec s evs) := by
  induction evs generalizing s with
  | nil => exact .refl s
  | cons e rest ih =>
    obtain ⟨t, ev⟩ := e
    have hrest : ∀ e ∈ rest, wd_readPos e.2 = true := fun e he => hn e (List.mem_cons_of_mem _ he)
    have ra : Reach s (advance s t) := (Reach.refl s).step (.adv s t)
    cases ev with
    | send k =>
      simp only [wd_exec]
      split
      · exact ra.trans (ih _ hrest)
      · next hs =>
        exact (ra.step (.send _ k (Bool.eq_false_iff.mpr hs))).trans (ih _ hrest)
    | close => exact (ra.step (.close _)).trans (ih _ hrest)
    | read k =>
      have hk : 0 < k := by
        have := hn (t, .read k) (List.mem_cons_self ..)
        cases k with
        | zero => simp [wd_readPos] at this
        | succ k => omega
      exact (ra.step (.read _ k hk)).trans (ih _ hrest)
    | drop => exact (ra.step (.drop _)).trans (ih _ hrest)

theorem wd_run_append (s : St) (e1 e2 : List (Nat × Ev)) :
    run s (e1 ++ e2) = run s e1 ++ run (wd_exec s e1) e2 := by
  induction e1 generalizing s with
  | nil => rfl
  | cons e rest ih =>
    obtain ⟨t, ev⟩ := e
    cases ev <;> simp only [run, wd_exec, ih, List.cons_append]

end Wd
end Atto
