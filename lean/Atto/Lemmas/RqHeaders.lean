/-
  Atto/Lemmas/RqHeaders.lean — `Headers` algebra: `getAll` / `contains` of `remove` / `append` /
  `insert` / `insertIfMissing`, `setHost` (its `getAll`, and `setHost` twice); the inequalities
  between the field names that `tryPrepare` / `setHost` write (instances of `str_inj`, which is a
  `simp` lemma for every importer of this file); and `getAll` through `tryPrepare`: the stages before
  the two defaults (`st_prepMid`), the names these stages write (`rq_early`), the three defaults.
-/
import Atto.Model.Request
import Atto.Lemmas.Str
namespace Atto

/-! the named constants as `str "…"`, where `str_inj` applies -/

theorem rq_hName (s : String) : hName s = str s := rfl
theorem rq_nameCL : nameCL = str "content-length" := rfl
theorem rq_nameTE : nameTE = str "transfer-encoding" := rfl

/-! ### getAll algebra -/

theorem rq_getAll_nil (n : Bytes) : Headers.getAll [] n = [] := rfl

theorem rq_getAll_cons (p : Bytes × Bytes) (h : Headers) (n : Bytes) :
    Headers.getAll (p :: h) n = if p.1 = n then p.2 :: Headers.getAll h n else Headers.getAll h n := by
  unfold Headers.getAll
  by_cases hp : p.1 = n <;> simp [hp]

theorem rq_getAll_app (h1 h2 : Headers) (n : Bytes) :
    Headers.getAll (h1 ++ h2) n = Headers.getAll h1 n ++ Headers.getAll h2 n := by
  simp [Headers.getAll]

theorem rq_getAll_remove (h : Headers) (n n' : Bytes) :
    Headers.getAll (h.remove n) n' = if n' = n then [] else h.getAll n' := by
  unfold Headers.getAll Headers.remove
  rw [List.filter_filter]
  by_cases hn : n' = n
  · subst hn; simp
  · rw [if_neg hn]
    congr 2; funext p
    by_cases hp : p.1 = n' <;> simp [hp, hn]

theorem rq_getAll_append (h : Headers) (n v n' : Bytes) :
    Headers.getAll (h.append n v) n' = h.getAll n' ++ (if n' = n then [v] else []) := by
  unfold Headers.append
  rw [rq_getAll_app, rq_getAll_cons, rq_getAll_nil]
  by_cases hn : n' = n
  · subst hn; simp
  · have : ¬ n = n' := fun e => hn e.symm
    simp [hn, this]

theorem rq_getAll_insert (h : Headers) (n v n' : Bytes) :
    Headers.getAll (h.insert n v) n' = if n' = n then [v] else h.getAll n' := by
  rw [show h.insert n v = (h.remove n).append n v from rfl, rq_getAll_append, rq_getAll_remove]
  by_cases hn : n' = n
  · simp [hn]
  · simp [hn]

theorem rq_contains_eq (h : Headers) (n : Bytes) : h.contains n = !(h.getAll n).isEmpty := by
  induction h with
  | nil => rfl
  | cons p h ih =>
    rw [rq_getAll_cons]
    by_cases hp : p.1 = n
    · simp [Headers.contains, hp]
    · simp only [hp, if_false, ← ih]
      simp [Headers.contains, hp]

theorem rq_getAll_insertIfMissing (h : Headers) (n v n' : Bytes) :
    Headers.getAll (h.insertIfMissing n v) n' =
      if n' = n then (if h.getAll n = [] then [v] else h.getAll n) else h.getAll n' := by
  unfold Headers.insertIfMissing
  rw [rq_contains_eq]
  cases hg : h.getAll n with
  | nil =>
    have := rq_getAll_append h n v n'
    unfold Headers.append at this
    by_cases hn : n' = n
    · subst hn; simp [this, hg]
    · simp [this, hn]
  | cons a l =>
    by_cases hn : n' = n
    · subst hn; simp [hg]
    · simp [hn]

/-- `set_host` replaces: what an earlier `set_host` put there is gone -/
theorem rq_setHost_setHost (h : Headers) (a c : Url) : setHost (setHost h a) c = setHost h c := by
  simp [setHost, Headers.insert, Headers.remove, List.filter_append, List.filter_filter]

/-- `set_host` leaves one `Host` value and no other field changed -/
theorem rq_getAll_setHost (h : Headers) (u : Url) (m : Bytes) :
    (setHost h u).getAll m = if m = hName "host" then [u.authority] else h.getAll m :=
  rq_getAll_insert h _ _ m

/-! ### the field names are pairwise different -/

theorem rq_ne_AE_HO : (str "accept-encoding" = str "host") = False := by simp [str_inj]
theorem rq_ne_AE_PA : (str "accept-encoding" = str "proxy-authorization") = False := by simp [str_inj]
theorem rq_ne_AE_AU : (str "accept-encoding" = str "authorization") = False := by simp [str_inj]
theorem rq_ne_CO_AE : (str "connection" = str "accept-encoding") = False := by simp [str_inj]
theorem rq_ne_CO_PA : (str "connection" = str "proxy-authorization") = False := by simp [str_inj]
theorem rq_ne_CO_AU : (str "connection" = str "authorization") = False := by simp [str_inj]
theorem rq_ne_CL_AE : (str "content-length" = str "accept-encoding") = False := by simp [str_inj]
theorem rq_ne_CL_CO : (str "content-length" = str "connection") = False := by simp [str_inj]
theorem rq_ne_CL_PA : (str "content-length" = str "proxy-authorization") = False := by simp [str_inj]
theorem rq_ne_CL_AU : (str "content-length" = str "authorization") = False := by simp [str_inj]
theorem rq_ne_TE_AE : (str "transfer-encoding" = str "accept-encoding") = False := by simp [str_inj]
theorem rq_ne_TE_CO : (str "transfer-encoding" = str "connection") = False := by simp [str_inj]
theorem rq_ne_TE_PA : (str "transfer-encoding" = str "proxy-authorization") = False := by simp [str_inj]
theorem rq_ne_TE_AU : (str "transfer-encoding" = str "authorization") = False := by simp [str_inj]
theorem rq_ne_CT_AE : (str "content-type" = str "accept-encoding") = False := by simp [str_inj]
theorem rq_ne_CT_CO : (str "content-type" = str "connection") = False := by simp [str_inj]
theorem rq_ne_CT_CL : (str "content-type" = str "content-length") = False := by simp [str_inj]
theorem rq_ne_CT_TE : (str "content-type" = str "transfer-encoding") = False := by simp [str_inj]
theorem rq_ne_CT_AC : (str "content-type" = str "accept") = False := by simp [str_inj]
theorem rq_ne_CT_UA : (str "content-type" = str "user-agent") = False := by simp [str_inj]
theorem rq_ne_CT_HO : (str "content-type" = str "host") = False := by simp [str_inj]
theorem rq_ne_CT_PA : (str "content-type" = str "proxy-authorization") = False := by simp [str_inj]
theorem rq_ne_CT_AU : (str "content-type" = str "authorization") = False := by simp [str_inj]
theorem rq_ne_AC_HO : (str "accept" = str "host") = False := by simp [str_inj]
theorem rq_ne_AC_PA : (str "accept" = str "proxy-authorization") = False := by simp [str_inj]
theorem rq_ne_AC_AU : (str "accept" = str "authorization") = False := by simp [str_inj]
theorem rq_ne_UA_HO : (str "user-agent" = str "host") = False := by simp [str_inj]
theorem rq_ne_UA_PA : (str "user-agent" = str "proxy-authorization") = False := by simp [str_inj]
theorem rq_ne_UA_AU : (str "user-agent" = str "authorization") = False := by simp [str_inj]
theorem rq_ne_HO_AE : (str "host" = str "accept-encoding") = False := by simp [str_inj]
theorem rq_ne_HO_CO : (str "host" = str "connection") = False := by simp [str_inj]
theorem rq_ne_HO_CL : (str "host" = str "content-length") = False := by simp [str_inj]
theorem rq_ne_HO_TE : (str "host" = str "transfer-encoding") = False := by simp [str_inj]
theorem rq_ne_HO_CT : (str "host" = str "content-type") = False := by simp [str_inj]
theorem rq_ne_HO_AC : (str "host" = str "accept") = False := by simp [str_inj]
theorem rq_ne_HO_UA : (str "host" = str "user-agent") = False := by simp [str_inj]
theorem rq_ne_HO_PA : (str "host" = str "proxy-authorization") = False := by simp [str_inj]
theorem rq_ne_HO_AU : (str "host" = str "authorization") = False := by simp [str_inj]
theorem rq_ne_PA_AU : (str "proxy-authorization" = str "authorization") = False := by simp [str_inj]
theorem rq_ne_AU_AE : (str "authorization" = str "accept-encoding") = False := by simp [str_inj]
theorem rq_ne_AU_CO : (str "authorization" = str "connection") = False := by simp [str_inj]
theorem rq_ne_AU_CL : (str "authorization" = str "content-length") = False := by simp [str_inj]
theorem rq_ne_AU_TE : (str "authorization" = str "transfer-encoding") = False := by simp [str_inj]
theorem rq_ne_AU_CT : (str "authorization" = str "content-type") = False := by simp [str_inj]
theorem rq_ne_AU_AC : (str "authorization" = str "accept") = False := by simp [str_inj]
theorem rq_ne_AU_UA : (str "authorization" = str "user-agent") = False := by simp [str_inj]
theorem rq_ne_AU_HO : (str "authorization" = str "host") = False := by simp [str_inj]
theorem rq_ne_AU_PA : (str "authorization" = str "proxy-authorization") = False := by simp [str_inj]

/-! ### header maps: `contains` after `insert` / `remove` -/

theorem st_contains_insert (h : Headers) (n v n' : Bytes) :
    (h.insert n v).contains n' = (n == n' || h.contains n') := by
  rw [rq_contains_eq, rq_contains_eq, rq_getAll_insert]
  by_cases e : n' = n
  · subst e; simp
  · have e' : ¬ n = n' := fun x => e x.symm
    simp [e, e']

theorem st_contains_remove (h : Headers) (n n' : Bytes) :
    (h.remove n).contains n' = (n != n' && h.contains n') := by
  rw [rq_contains_eq, rq_contains_eq, rq_getAll_remove]
  by_cases e : n' = n
  · subst e; simp
  · have e' : ¬ n = n' := fun x => e x.symm
    simp [e, e']

/-! ### `try_prepare` -/

/-- the middle stages of `tryPrepare`: Connection, framing, Content-Type -/
def st_prepMid (h : Headers) (b : BodyM) : Headers :=
  let h := h.insert (hName "connection") (str "close")
  let h := (h.remove nameCL).remove nameTE
  let h := match b.kind with
    | .empty => h
    | .known len => h.insert nameCL (natDigits len)
    | .chunked => h.insert nameTE (str "chunked")
  match b.contentType with
    | some t => h.insert (hName "content-type") t
    | none => h

theorem st_tryPrepare_eq (s : PrepSettings) (h : Headers) (b : BodyM) :
    tryPrepare s h b =
      ((st_prepMid (if s.allowCompression then h.insert (hName "accept-encoding") (str "gzip, deflate") else h) b
        ).insertIfMissing (hName "accept") (str "*/*")).insertIfMissing (hName "user-agent") s.userAgent := rfl

theorem st_prepMid_getAll (h : Headers) (b : BodyM) (n : Bytes) (h1 : n ≠ hName "connection")
    (h2 : n ≠ nameCL) (h3 : n ≠ nameTE) (h4 : n ≠ hName "content-type") :
    (st_prepMid h b).getAll n = h.getAll n := by
  unfold st_prepMid
  cases b.contentType <;> cases b.kind <;> simp [rq_getAll_insert, rq_getAll_remove, h1, h2, h3, h4]

theorem st_prepMid_contains (h : Headers) (b : BodyM) (n : Bytes) (h1 : n ≠ hName "connection")
    (h2 : n ≠ nameCL) (h3 : n ≠ nameTE) (h4 : n ≠ hName "content-type") :
    (st_prepMid h b).contains n = h.contains n := by
  rw [rq_contains_eq, rq_contains_eq, st_prepMid_getAll h b n h1 h2 h3 h4]

/-- the names that the stages of `try_prepare` before the two defaults write to -/
def rq_early : List Bytes :=
  [str "accept-encoding", str "connection", nameCL, nameTE, str "content-type"]

theorem rq_accept_late : str "accept" ∉ rq_early := by simp [rq_early, nameCL, nameTE, str_inj]
theorem rq_userAgent_late : str "user-agent" ∉ rq_early := by simp [rq_early, nameCL, nameTE, str_inj]
theorem rq_proxyAuth_late : str "proxy-authorization" ∉ rq_early := by
  simp [rq_early, nameCL, nameTE, str_inj]

/-- a name that none of the stages before the defaults writes keeps the caller's values up to there -/
theorem rq_prep_early (s : PrepSettings) (h : Headers) (b : BodyM) {n : Bytes} (hn : n ∉ rq_early) :
    (st_prepMid (if s.allowCompression then h.insert (str "accept-encoding") (str "gzip, deflate") else h) b
      ).getAll n = h.getAll n := by
  simp only [rq_early, List.mem_cons, List.not_mem_nil, or_false, not_or] at hn
  obtain ⟨h0, h1, h2, h3, h4⟩ := hn
  rw [st_prepMid_getAll _ b n h1 h2 h3 h4]
  split
  · rw [rq_getAll_insert, if_neg h0]
  · rfl

/-- the two defaults at the end leave every other name alone -/
theorem rq_tryPrepare_getAll (s : PrepSettings) (h : Headers) (b : BodyM) {n : Bytes}
    (ha : n ≠ str "accept") (hu : n ≠ str "user-agent") :
    (tryPrepare s h b).getAll n =
      (st_prepMid (if s.allowCompression then h.insert (str "accept-encoding") (str "gzip, deflate") else h) b
        ).getAll n := by
  rw [st_tryPrepare_eq]
  simp only [hName]
  rw [rq_getAll_insertIfMissing, if_neg hu, rq_getAll_insertIfMissing, if_neg ha]

/-- `Accept: */*` is added iff the caller gave no `Accept`; otherwise the caller's values stay -/
theorem rq_tryPrepare_accept (s : PrepSettings) (h : Headers) (b : BodyM) :
    (tryPrepare s h b).getAll (str "accept")
      = if h.getAll (str "accept") = [] then [str "*/*"] else h.getAll (str "accept") := by
  rw [st_tryPrepare_eq]
  simp only [hName]
  rw [rq_getAll_insertIfMissing, if_neg (by simp [str_inj]), rq_getAll_insertIfMissing, if_pos rfl,
    rq_prep_early s h b rq_accept_late]

/-- the default `User-Agent` is added iff the caller gave none -/
theorem rq_tryPrepare_userAgent (s : PrepSettings) (h : Headers) (b : BodyM) :
    (tryPrepare s h b).getAll (str "user-agent")
      = if h.getAll (str "user-agent") = [] then [s.userAgent] else h.getAll (str "user-agent") := by
  rw [st_tryPrepare_eq]
  simp only [hName]
  rw [rq_getAll_insertIfMissing, if_pos rfl, rq_getAll_insertIfMissing,
    if_neg (show ¬ str "user-agent" = str "accept" by simp [str_inj]), rq_prep_early s h b rq_userAgent_late]

/-- with compression allowed `Accept-Encoding` is forced to `gzip, deflate`; with compression off the
    caller's values go through and nothing is added -/
theorem rq_tryPrepare_acceptEncoding (s : PrepSettings) (h : Headers) (b : BodyM) :
    (tryPrepare s h b).getAll (str "accept-encoding")
      = if s.allowCompression then [str "gzip, deflate"] else h.getAll (str "accept-encoding") := by
  rw [rq_tryPrepare_getAll s h b (by simp [str_inj]) (by simp [str_inj]),
    st_prepMid_getAll _ b _ (by simp [hName, str_inj]) (by simp [nameCL, str_inj])
      (by simp [nameTE, str_inj]) (by simp [hName, str_inj])]
  split
  · rw [rq_getAll_insert, if_pos rfl]
  · rfl

/-- the framing fields that fit a body: the values of `content-length` and of `transfer-encoding` -/
def rqFramingOf : BodyKind → List Bytes × List Bytes
  | .known n => ([natDigits n], [])
  | .chunked => ([], [str "chunked"])
  | .empty => ([], [])

/-- the framing fields and `Connection` after the middle stages, whatever the caller had put there -/
theorem rq_prepMid_framing (h : Headers) (b : BodyM) :
    ((st_prepMid h b).getAll nameCL, (st_prepMid h b).getAll nameTE) = rqFramingOf b.kind ∧
    (st_prepMid h b).getAll (str "connection") = [str "close"] := by
  unfold st_prepMid
  cases b.contentType <;> cases b.kind <;>
    simp [rqFramingOf, rq_getAll_insert, rq_getAll_remove, hName, nameCL, nameTE, str_inj]

-- different literals are different names: from here on `simp` decides `str "a" = str "b"` on the strings
attribute [simp] str_inj

end Atto
