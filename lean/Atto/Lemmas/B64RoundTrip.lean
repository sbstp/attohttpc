/- Atto/Lemmas/B64RoundTrip.lean — base64 decode ∘ encode = id. -/
import Atto.Spec.Base64
namespace Atto

theorem b64_val_char : ∀ n, n < 64 → b64Val? (b64Char n) = some n := by
  decide +kernel

theorem b64_char_ne : ∀ n, n < 64 → b64Char n ≠ 61 := by
  decide +kernel

/-- The arithmetic of one group: three bytes `x y z` give four sextets, each below 64, and the
    decoder's three sums give the bytes back.  (A final group of one or two bytes is the case
    `z = 0`, `y = z = 0`; its unused low bits are then zero, which is what the decoder checks.) -/
theorem b64_group (x y z : Nat) (hx : x < 256) (hy : y < 256) (hz : z < 256) :
    x / 4 < 64 ∧ x % 4 * 16 + y / 16 < 64 ∧ y % 16 * 4 + z / 64 < 64 ∧ z % 64 < 64 ∧
    x / 4 * 4 + (x % 4 * 16 + y / 16) / 16 = x ∧
    (x % 4 * 16 + y / 16) % 16 * 16 + (y % 16 * 4 + z / 64) / 4 = y ∧
    (y % 16 * 4 + z / 64) % 4 * 64 + z % 64 = z := by
  omega

theorem b64Decode_b64Encode (x : Bytes) : b64Decode (b64Encode x) = some x := by
  fun_induction b64Encode x with
  | case1 => rw [b64Decode]
  | case2 a x =>
    obtain ⟨h1, h2, _, _, e1, _, _⟩ := b64_group x 0 0 (UInt8.toNat_lt a) (by decide) (by decide)
    rw [Nat.zero_div, Nat.add_zero] at h2 e1
    rw [b64Decode, b64_val_char _ h1, b64_val_char _ h2]
    simp only [show x % 4 * 16 % 16 = 0 by omega, if_true, e1]
    rw [UInt8.ofNat_toNat]
  | case3 a b x y =>
    obtain ⟨h1, h2, h3, _, e1, e2, _⟩ := b64_group x y 0 (UInt8.toNat_lt a) (UInt8.toNat_lt b) (by decide)
    rw [Nat.zero_div, Nat.add_zero] at h3 e2
    rw [b64Decode, b64_val_char _ h1, b64_val_char _ h2, b64_val_char _ h3]
    · simp only [show y % 16 * 4 % 4 = 0 by omega, if_true, e1, e2]
      rw [UInt8.ofNat_toNat, UInt8.ofNat_toNat]
    · exact b64_char_ne _ h3
  | case4 a b c rest x y z ih =>
    obtain ⟨h1, h2, h3, h4, e1, e2, e3⟩ :=
      b64_group x y z (UInt8.toNat_lt a) (UInt8.toNat_lt b) (UInt8.toNat_lt c)
    rw [b64Decode, b64_val_char _ h1, b64_val_char _ h2, b64_val_char _ h3,
      b64_val_char _ h4, ih]
    · simp only [e1, e2, e3]
      rw [UInt8.ofNat_toNat, UInt8.ofNat_toNat, UInt8.ofNat_toNat]
    · exact fun _ h _ => b64_char_ne _ h4 h
    · exact fun h _ => b64_char_ne _ h4 h
example : b64Decode (b64Encode [104, 105, 58, 0, 255]) = some [104, 105, 58, 0, 255] := by
  decide +kernel

end Atto
