/-
  Atto/Lemmas/BufViewLC.lean — the `BufRead` view (`fill_buf` / `consume`) of `Content-Length` and
  close-delimited bodies over the BufReader model: the three calls on `Exact` (Lemmas/LengthClose.lean),
  their contract `QExactB`, and the run lemmas behind Props/BufView (b2)–(b5).
-/
import Atto.Lemmas.BufViewRun
namespace Atto

/-! ## the buffer inside the stream -/

theorem bufr_flat_eq (r : BufR) : r.flat = bytesI r.buf ++ flatT r.inner := rfl

theorem consume_flat (r : BufR) (k : Nat) :
    bytesI (r.buf.take k) ++ (r.consume k).flat = r.flat := by
  simp only [BufR.flat, BufR.consume, bytesI]
  rw [← List.append_assoc, ← List.map_append, List.take_append_drop]

/-- consuming within what is still to come of the frame -/
theorem consume_split (r : BufR) (k : Nat) (rem : Bytes) (trail : List Item)
    (hfl : r.flat = bytesI rem ++ trail) (hk : (r.buf.take k).length ≤ rem.length) :
    rem = r.buf.take k ++ rem.drop (r.buf.take k).length ∧
    (r.consume k).flat = bytesI (rem.drop (r.buf.take k).length) ++ trail :=
  bytesI_split _ rem _ trail ((consume_flat r k).trans hfl) hk

/-- `BufReader::fill_buf` never panics -/
theorem bufr_fillBuf_ne_panic (r : BufR) (h : r.Ok) : r.fillBuf.1 ≠ .panic := by
  have hm := (fillBuf_spec r h).2.2.2
  rcases hfl : r.flat with _ | ⟨(b | k | _), rest⟩ <;> rw [hfl] at hm <;> simp only at hm <;>
    rw [hm.1] <;> simp

/-! ## `fill_buf` and `consume` on `Exact` -/

theorem length_fill_zero (r : BufR) (m : Nat) :
    (Body.length r 0).fillBuf m = (.ok [], .length r 0) := by
  simp [Body.fillBuf]

/-- the window of the reader lies within `x`, up to the announced length -/
theorem Exact.buf_take {x : Bytes} {rest : List Item} {r : BufR} {lim j : Nat}
    (hlim : lim = x.length + j) (hfl : r.flat = bytesI x ++ rest) (hnb : 0 < j → NoByte rest) :
    r.buf.take lim = r.buf.take x.length := by
  by_cases hj : 0 < j
  · have := bytesI_le_of_noByte r.buf x _ rest ((bufr_flat_eq r).symm.trans hfl) (hnb hj)
    rw [List.take_of_length_le (by omega), List.take_of_length_le this]
  · rw [hlim, show j = 0 by omega, Nat.add_zero]

/-- while `x` is not exhausted `fill_buf` shows a non-empty piece of it -/
theorem Exact.fill {b : Body} {x : Bytes} {d : Option Nat} {rest : List Item} (h : Exact b x d rest)
    (hx : x ≠ []) (m : Nat) :
    ∃ bs, (b.fillBuf m).1 = .ok bs ∧ bs ≠ [] ∧ bs <+: x ∧ Exact (b.fillBuf m).2 x d rest := by
  obtain ⟨c, x0, rfl⟩ := List.exists_cons_of_ne_nil hx
  match b, d, h with
  | .length r lim, some j, ⟨hok, hlim, hfl, hnb⟩ =>
    have hl0 : lim ≠ 0 := by rw [hlim, List.length_cons]; omega
    obtain ⟨hok', _, _, hm⟩ := fillBuf_spec r hok
    rw [flat_cons_of hfl] at hm
    obtain ⟨h1, hb, hf'⟩ := hm
    rcases hfb : r.fillBuf with ⟨res, r'⟩
    rw [hfb] at hok' h1 hb hf'
    subst h1
    have hfl' : r'.flat = bytesI (c :: x0) ++ rest := hf'
    refine ⟨r'.buf.take lim, by simp only [Body.fillBuf, hl0, if_false, hfb, hb], take_ne_nil hb hl0,
      ?_, by simp only [Body.fillBuf, hl0, if_false, hfb, hb]; exact ⟨hok', hlim, hfl', hnb⟩⟩
    rw [Exact.buf_take hlim hfl' hnb]
    exact bytesI_take_prefix r'.buf _ _ _ ((bufr_flat_eq r').symm.trans hfl')
  | .close r, none, ⟨hok, hfl, hnb⟩ =>
    obtain ⟨hok', _, _, hm⟩ := fillBuf_spec r hok
    rw [flat_cons_of hfl] at hm
    obtain ⟨h1, hb, hf'⟩ := hm
    rcases hfb : r.fillBuf with ⟨res, r'⟩
    rw [hfb] at hok' h1 hb hf'
    subst h1
    have hfl' : r'.flat = bytesI (c :: x0) ++ rest := hf'
    have h2 := (bufr_flat_eq r').symm.trans hfl'
    refine ⟨r'.buf, by simp only [Body.fillBuf, hfb], hb, ?_,
      by simp only [Body.fillBuf, hfb]; exact ⟨hok', hfl', hnb⟩⟩
    have := bytesI_take_prefix r'.buf _ _ _ h2
    rwa [List.take_of_length_le (bytesI_le_of_noByte r'.buf _ _ rest h2 hnb)] at this

/-- `.ok bs` as the slice `fill_buf` shows -/
def Ev.toPeek : Ev → BEv
  | .ok bs => .peek bs | .err e => .err e | .blocked => .blocked | .panic => .panic

/-- `.ok bs` as the bytes a `read` returns -/
def Ev.toGot : Ev → BEv
  | .ok bs => .got bs | .err e => .err e | .blocked => .blocked | .panic => .panic

theorem BEv.ofRead_eq (res : RR Bytes) : BEv.ofRead res = (Ev.ofRR res).toGot := by cases res <;> rfl

theorem BEv.ofFill_eq (res : RR Bytes) : BEv.ofFill res = (Ev.ofRR res).toPeek := by cases res <;> rfl

/-- `fill_buf` where the stream does not go on with a byte answers like a read into a one-byte
    buffer (`stopRes`, through the early-EOF check if a length is announced); the stream stays as it is
    unless an error item was consumed -/
theorem fill_stop (r : BufR) (m k : Nat) (h : r.Ok) (hnb : NoByte r.flat) :
    (Body.close r).fillBuf m = (stopRes r.flat, .close r.fillBuf.2) ∧
    (Body.length r (k + 1)).fillBuf m = (eofRes 1 (stopRes r.flat), .length r.fillBuf.2 (k + 1)) ∧
    r.fillBuf.2.Ok ∧ ((∀ e F, r.flat ≠ .err e :: F) → r.fillBuf.2.flat = r.flat) := by
  obtain ⟨hok', _, _, hm⟩ := fillBuf_spec r h
  rcases hfb : r.fillBuf with ⟨res, r'⟩
  rw [hfb] at hok' hm
  simp only at hok' hm
  simp only [Body.fillBuf, Nat.succ_ne_zero, if_false, hfb]
  rcases hfl : r.flat with _ | ⟨(b | e | _), rest⟩ <;> rw [hfl] at hm hnb
  · obtain ⟨rfl, hb, hf'⟩ := hm
    simp only [hb, if_true]
    exact ⟨rfl, rfl, hok', fun _ => hf'⟩
  · exact hnb.elim
  · obtain ⟨rfl, hf', _⟩ := hm
    exact ⟨rfl, rfl, hok', fun hs => absurd rfl (hs e rest)⟩
  · obtain ⟨rfl, hf'⟩ := hm
    exact ⟨rfl, rfl, hok', fun _ => hf'⟩

/-- once `x` is exhausted `fill_buf` answers like a read into a non-empty buffer -/
theorem Exact.fill_end {b : Body} {d : Option Nat} {rest : List Item} (h : Exact b [] d rest)
    (m : Nat) :
    BEv.ofFill (b.fillBuf m).1 = (endEv d 1 rest).toPeek ∧
    (Stable d rest → Exact (b.fillBuf m).2 [] d rest) := by
  match b, d, h with
  | .length r lim, some j, ⟨hok, hlim, hfl, hnb⟩ =>
    have hlim' : lim = j := by rw [hlim]; exact Nat.zero_add j
    subst hlim'
    have hfl' : r.flat = rest := hfl
    cases lim with
    | zero =>
      rw [length_fill_zero]
      exact ⟨rfl, fun _ => ⟨hok, rfl, hfl, hnb⟩⟩
    | succ j =>
      obtain ⟨_, h1, hok', h2⟩ := fill_stop r m j hok (hfl' ▸ hnb (Nat.succ_pos _))
      rw [h1, hfl', BEv.ofFill_eq]
      exact ⟨rfl, fun hs => ⟨hok', hlim, (h2 (hfl' ▸ hs.resolve_left nofun)).trans hfl, hnb⟩⟩
  | .close r, none, ⟨hok, hfl, hnb⟩ =>
    have hfl' : r.flat = rest := hfl
    obtain ⟨h1, _, hok', h2⟩ := fill_stop r m 0 hok (hfl' ▸ hnb)
    rw [h1, hfl', BEv.ofFill_eq]
    exact ⟨rfl, fun hs => ⟨hok', (h2 (hfl' ▸ hs.resolve_left nofun)).trans hfl, hnb⟩⟩

/-- a `consume` within the contract takes the first bytes of `x` -/
theorem Exact.consume {b : Body} {x : Bytes} {d : Option Nat} {rest : List Item}
    (h : Exact b x d rest) (k : Nat) (ha : b.allows (.consume k)) :
    ∃ x', x = b.window.take k ++ x' ∧ Exact (b.consume k) x' d rest := by
  match b, d, h with
  | .length r lim, some j, ⟨hok, hlim, hfl, hnb⟩ =>
    simp only [Body.allows, List.length_take] at ha
    have hkl : min k lim = k := by omega
    have hw : (r.buf.take lim).take k = r.buf.take k := by rw [List.take_take, hkl]
    have hk : (r.buf.take k).length ≤ x.length := by
      have := congrArg List.length (Exact.buf_take hlim hfl hnb)
      simp only [List.length_take] at this ⊢
      omega
    obtain ⟨hs1, hs2⟩ := consume_split r k x rest hfl hk
    refine ⟨_, by rw [Body.window, hw]; exact hs1, ?_⟩
    simp only [Body.consume, hkl]
    refine ⟨hok, ?_, hs2, hnb⟩
    have hk' : (r.buf.take k).length = k := by rw [List.length_take]; omega
    rw [List.length_drop, hk']; omega
  | .close r, none, ⟨hok, hfl, hnb⟩ =>
    have hk : (r.buf.take k).length ≤ x.length := by
      have := bytesI_le_of_noByte r.buf x _ rest ((bufr_flat_eq r).symm.trans hfl) hnb
      simp only [List.length_take]; omega
    obtain ⟨hs1, hs2⟩ := consume_split r k x rest hfl hk
    exact ⟨_, hs1, hok, hs2, hnb⟩

theorem Ev.toGot_taken (e : Ev) : e.toGot.taken = e.bytes := by cases e <;> rfl

/-- what `fill_buf` shows is not taken -/
theorem Ev.toPeek_taken (e : Ev) : e.toPeek.taken = [] := by cases e <;> rfl

/-- the contract of the three calls on `Exact` -/
def QExactB (d : Option Nat) (rest : List Item) : BOp → Bytes → BEv → Prop
  | .read n, rem, e => ∃ e', e = Ev.toGot e' ∧ QExact d rest n rem e'
  | .fill, rem, e =>
    (rem ≠ [] → ∃ bs, e = .peek bs ∧ bs ≠ [] ∧ bs <+: rem) ∧
    (rem = [] → e = (endEv d 1 rest).toPeek)
  | .consume _, _, e => ∃ bs, e = .took bs

theorem exact_buf_while (m : Nat) (d : Option Nat) (rest : List Item) :
    TracksWhile (Body.step m) BEv.taken Body.allows (fun b x => Exact b x d rest)
      (QExactB d rest) := by
  intro b x op h hx ha
  cases op with
  | read n =>
    obtain ⟨hq, x', h', hr⟩ := exact_while m d rest b x n h hx trivial
    rw [step_read, BEv.ofRead_eq]
    exact ⟨⟨_, rfl, hq⟩, x', h', by rwa [Ev.toGot_taken]⟩
  | fill =>
    obtain ⟨bs, h1, h2, h3, h4⟩ := h.fill hx m
    rw [step_fill, h1]
    exact ⟨⟨fun _ => ⟨bs, rfl, h2, h3⟩, fun h0 => absurd h0 hx⟩, x, h4, rfl⟩
  | consume k =>
    obtain ⟨x', h1, h2⟩ := h.consume k ha
    exact ⟨⟨_, rfl⟩, x', h2, h1⟩

theorem exact_buf_step (m : Nat) (d : Option Nat) (rest : List Item) (hs : Stable d rest) :
    BufTracks m Body.allows (fun b x => Exact b x d rest) (QExactB d rest) := by
  intro b x op h ha
  by_cases hx : x = []
  · subst hx
    cases op with
    | read n =>
      obtain ⟨hq, x', h', hr⟩ := (exact_step m d rest hs).step n h
      rw [step_read, BEv.ofRead_eq]
      exact ⟨⟨_, rfl, hq⟩, x', h', by rwa [Ev.toGot_taken]⟩
    | fill =>
      obtain ⟨h1, h2⟩ := h.fill_end m
      rw [step_fill, h1]
      exact ⟨⟨fun h0 => absurd rfl h0, fun _ => rfl⟩, [], h2 hs, by rw [Ev.toPeek_taken]; rfl⟩
    | consume k =>
      obtain ⟨x', h1, h2⟩ := h.consume k ha
      exact ⟨⟨_, rfl⟩, x', h2, h1⟩
  · exact exact_buf_while m d rest b x op h hx ha

/-! ## reads, as `BEv` -/

theorem qclean_got (n : Nat) (rem bs : Bytes) (h : 0 < n → (bs = [] ↔ rem = [])) :
    QCleanB (.read n) rem (.got bs) := by
  refine ⟨rfl, (by intro bs' h'; cases h'), (by intro h'; cases h'), ?_⟩
  intro n' hn' hpos
  cases hn'
  simp only [BEv.got.injEq]
  exact h hpos

theorem qclean_took (k : Nat) (rem bs : Bytes) : QCleanB (.consume k) rem (.took bs) :=
  ⟨rfl, (by intro bs' h'; cases h'), (by intro h'; cases h'), (by intro n h'; cases h')⟩

theorem qclean_peek (rem bs : Bytes) (hp : bs <+: rem) (h : bs = [] ↔ rem = []) :
    QCleanB .fill rem (.peek bs) := by
  refine ⟨rfl, ?_, ?_, (by intro n h'; cases h')⟩
  · intro bs' h'; cases h'; exact hp
  · intro _; simp only [BEv.peek.injEq]; exact h

/-- a close-delimited body clamps `consume` itself: every call is within the contract -/
theorem runA_close (m : Nat) (ops : List BOp) :
    ∀ r : BufR, runA Body.allows (Body.step m) ops (.close r) := by
  induction ops with
  | nil => intro _; trivial
  | cons op ops ih =>
    intro r
    refine ⟨by cases op <;> trivial, ?_⟩
    cases op with
    | read n => rw [step_read, close_read_eq]; exact ih _
    | fill => rw [step_fill]; simp only [Body.fillBuf]; split <;> exact ih _
    | consume k => exact ih _

/-! ## Complete bodies, consumer within the `consume` contract (b2), (b3) -/

theorem clean_buf_step (m : Nat) (d : Option Nat) (rest : List Item) (hc : EndsClean d rest) :
    BufTracks m Body.allows (fun b x => Exact b x d rest) QCleanB := by
  refine (exact_buf_step m d rest hc.stable).mono fun op rem e h => ?_
  cases op with
  | read n =>
    obtain ⟨e', rfl, h'⟩ := h
    obtain ⟨bs, rfl, hiff⟩ := h'.clean hc
    exact qclean_got n rem bs hiff
  | fill =>
    by_cases hr : rem = []
    · rw [h.2 hr, hc.endEv, hr]
      exact qclean_peek [] [] (List.prefix_refl _) ⟨fun _ => rfl, fun _ => rfl⟩
    · obtain ⟨bs, rfl, hb, hp⟩ := h.1 hr
      exact qclean_peek rem bs hp ⟨fun h => absurd h hb, fun h => absurd h hr⟩
  | consume k =>
    obtain ⟨bs, rfl⟩ := h
    exact qclean_took k rem bs

/-! ## A `Content-Length` body closed early, consumer within the contract (b4) -/

def QCutB (op : BOp) (rem : Bytes) (e : BEv) : Prop :=
  e ≠ .peek [] ∧ e ≠ .panic ∧ (∀ n, op = .read n → 0 < n → e ≠ .got []) ∧
  (op = .fill → rem = [] → e = .err .eof) ∧
  (∀ n, op = .read n → 0 < n → rem = [] → e = .err .eof)

theorem cut_buf_step (m : Nat) {k : Nat} (hk : 0 < k) :
    BufTracks m Body.allows (fun b x => Exact b x (some k) []) QCutB := by
  refine (exact_buf_step m _ _ (.inr fun _ _ h => by cases h)).mono fun op rem e h => ?_
  cases op with
  | read n =>
    obtain ⟨e', rfl, h'⟩ := h
    obtain ⟨h1, h2, h3, _⟩ := h'.cut hk
    have hn : ∀ {n'}, BOp.read n = .read n' → 0 < n' → 0 < n := fun hn' hp => BOp.read.inj hn' ▸ hp
    cases e' with
    | ok bs =>
      exact ⟨nofun, nofun, fun _ hn' hp hc => h2 (hn hn' hp) (congrArg Ev.ok (BEv.got.inj hc)),
        nofun, fun _ hn' hp hr => nomatch h3 (hn hn' hp) hr⟩
    | err e =>
      exact ⟨nofun, nofun, fun _ _ _ => nofun, nofun,
        fun _ hn' hp hr => congrArg Ev.toGot (h3 (hn hn' hp) hr)⟩
    | blocked =>
      exact ⟨nofun, nofun, fun _ _ _ => nofun, nofun, fun _ hn' hp hr => nomatch h3 (hn hn' hp) hr⟩
    | panic => exact absurd rfl h1
  | fill =>
    by_cases hr : rem = []
    · rw [h.2 hr, endEv_cut hk Nat.one_pos]
      exact ⟨nofun, nofun, nofun, fun _ _ => rfl, nofun⟩
    · obtain ⟨bs, rfl, hb, _⟩ := h.1 hr
      exact ⟨fun hc => hb (BEv.peek.inj hc), nofun, nofun, fun _ h0 => absurd h0 hr, nofun⟩
  | consume j =>
    obtain ⟨bs, rfl⟩ := h
    exact ⟨nofun, nofun, nofun, nofun, nofun⟩

/-- (b4) at the level of `Body` -/
theorem cut_buf_run (m : Nat) (ops : List BOp) {b : Body} {rem : Bytes} {k : Nat}
    (h : Exact b rem (some k) []) (hk : 0 < k) (ha : runA Body.allows (Body.step m) ops b) :
    let evs := (bufRun m ops b).1
    (∀ e ∈ evs, e ≠ .peek [] ∧ e ≠ .panic) ∧
    (∀ (i n' : Nat), ops[i]? = some (BOp.read n') → 0 < n' → evs[i]? ≠ some (BEv.got [])) ∧
    takenEv evs <+: rem ∧
    (∀ i : Nat, ops[i]? = some BOp.fill → takenEv (evs.take i) = rem →
        evs[i]? = some (BEv.err .eof)) ∧
    (∀ (i n' : Nat), ops[i]? = some (BOp.read n') → 0 < n' → takenEv (evs.take i) = rem →
        evs[i]? = some (BEv.err .eof)) := by
  intro evs
  have hlen : evs.length = ops.length := bufRun_length m ops b
  obtain ⟨h1, h2⟩ := (cut_buf_step m hk).get_buf ops h ha
  refine ⟨?_, ?_, h1, ?_, ?_⟩
  · exact forall_mem_of_getElem? hlen fun i hi =>
      (h2 i hi).imp fun e' h => ⟨h.1, h.2.2.1, h.2.2.2.1⟩
  · intro i n hop hn hev
    obtain ⟨hi, hopi⟩ := List.getElem?_eq_some_iff.1 hop
    obtain ⟨e', he', _, _, _, hq, _⟩ := h2 i hi
    rw [hev] at he'
    cases he'
    exact hq n hopi hn rfl
  · intro i hop hd
    obtain ⟨hi, hopi⟩ := List.getElem?_eq_some_iff.1 hop
    obtain ⟨e', he', hp, _, _, _, hq, _⟩ := h2 i hi
    rw [he', hq hopi ((prefix_drop_nil_iff hp).2 hd)]
  · intro i n hop hn hd
    obtain ⟨hi, hopi⟩ := List.getElem?_eq_some_iff.1 hop
    obtain ⟨e', he', hp, _, _, _, _, hq⟩ := h2 i hi
    rw [he', hq n hopi hn ((prefix_drop_nil_iff hp).2 hd)]

/-! ## Arrived bytes (b5) -/

/-- (b5) at the level of `Body` -/
theorem arrived_buf_run (m : Nat) (ops : List BOp) {b : Body} {x y : Bytes} {d : Option Nat}
    {rest : List Item} (h : Exact b (x ++ y) d rest) (ha : runA Body.allows (Body.step m) ops b) :
    ∀ i, (takenEv ((bufRun m ops b).1.take i)).length < x.length →
      (ops[i]? = some .fill → ∃ bs, (bufRun m ops b).1[i]? = some (.peek bs) ∧ bs ≠ []) ∧
      (∀ n, ops[i]? = some (.read n) → 0 < n →
        ∃ bs, (bufRun m ops b).1[i]? = some (.got bs) ∧ bs ≠ [] ∧ bs.length ≤ n) := by
  intro i hlt
  have key : ∀ (hi : i < ops.length), ∃ e, (bufRun m ops b).1[i]? = some e ∧ ∃ rem, rem ≠ [] ∧
      QExactB d rest ops[i] rem e := fun hi => by
    obtain ⟨e, he, hp, hq⟩ := (exact_buf_while m d rest).get_buf ops h ha i hi
      (by rw [List.length_append]; omega)
    exact ⟨e, he, _, (prefix_length_lt_iff hp).1 (by rw [List.length_append]; omega), hq⟩
  refine ⟨fun hop => ?_, fun n hop hn => ?_⟩
  · obtain ⟨hi, hopi⟩ := List.getElem?_eq_some_iff.1 hop
    obtain ⟨e, he, rem, hr, hq⟩ := key hi
    rw [hopi] at hq
    obtain ⟨bs, rfl, hb, _⟩ := hq.1 hr
    exact ⟨bs, he, hb⟩
  · obtain ⟨hi, hopi⟩ := List.getElem?_eq_some_iff.1 hop
    obtain ⟨e, he, rem, hr, hq⟩ := key hi
    rw [hopi] at hq
    obtain ⟨e', rfl, h1, _⟩ := hq
    obtain ⟨bs, rfl, hb, hle⟩ := h1 hr
    exact ⟨bs, he, hb hn, hle⟩

end Atto
