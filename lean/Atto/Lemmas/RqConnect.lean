/-
  Atto/Lemmas/RqConnect.lean — what `C12_connect_parses` needs to read `connectRequest` back with the
  independent parser of Spec/RequestSpec.lean: its shape as a request head with an authority-form
  target (`rq_connectRequest_shape`), its fields are well formed (`rq_connectFields_WF`; base64 output
  is made of harmless bytes) and announce no body (`rq_connect_framing`).
-/
import Atto.Lemmas.RqRoundTrip
import Atto.Model.Send
namespace Atto

/-! ### the literals of `connectRequest` split where the parser splits them -/

theorem rq_cCONNECTsp : str "CONNECT " = str "CONNECT" ++ [32] := by decide +kernel
theorem rq_cHostc : str "Host: " = str "Host" ++ str ": " := by decide +kernel
theorem rq_cConnClose : str "Connection: close\r\n" = str "Connection" ++ str ": " ++ str "close" ++ [13, 10] := by
  simp only [str_data]; decide +kernel
theorem rq_cPA : str "Proxy-Authorization: Basic " = str "Proxy-Authorization" ++ str ": " ++ str "Basic " := by
  simp only [str_data]; decide +kernel

/-- the fields of the CONNECT head -/
def rqConnectFields (p : Url) : Headers :=
  [(str "Host", p.host ++ [58] ++ natDigits p.effPort), (str "Connection", str "close"),
   (str "Proxy-Authorization", str "Basic " ++ b64Encode (p.user ++ [58] ++ p.pass.getD []))]

/-- authority-form target: the origin's host and effective port -/
def rqConnectTarget (url : Url) : Bytes := url.host ++ [58] ++ natDigits url.effPort

/-- the head, then an empty body: the `++ []` puts it in the form `rq_parse_head` rewrites -/
theorem rq_connectRequest_shape (url p : Url) :
    connectRequest url p =
      str "CONNECT" ++ [32] ++ rqConnectTarget url ++ str " HTTP/1.1\r\n" ++ writeHeaders (rqConnectFields p) ++ [] := by
  unfold connectRequest rqConnectTarget rqConnectFields writeHeaders
  simp only [rq_cCONNECTsp, rq_cHostc, rq_str_crlf, rq_cConnClose, rq_cPA, List.map_cons, List.map_nil,
    List.flatten_cons, List.flatten_nil, List.append_assoc, List.cons_append, List.nil_append, List.append_nil]

/-! ### base64 output is made of harmless bytes -/

theorem rq_b64Char_ok_lt : ∀ n, n < 64 →
    isValueByte (b64Char n) = true ∧ b64Char n ≠ 32 ∧ b64Char n ≠ 9 := by decide +kernel

theorem rq_b64Char_ok (n : Nat) : isValueByte (b64Char n) = true ∧ b64Char n ≠ 32 ∧ b64Char n ≠ 9 := by
  by_cases h : n < 64
  · exact rq_b64Char_ok_lt n h
  · have : b64Char n = 47 := by
      unfold b64Char
      rw [if_neg (by omega), if_neg (by omega), if_neg (by omega), if_neg (by omega)]
    rw [this]; decide

theorem rq_b64Encode_bytes (x : Bytes) : ∀ b ∈ b64Encode x, isValueByte b = true ∧ b ≠ 32 ∧ b ≠ 9 := by
  induction x using b64Encode.induct with
  | case1 => intro b hb; simp [b64Encode] at hb
  | case2 a =>
    intro b hb
    simp only [b64Encode, List.mem_cons, List.not_mem_nil, or_false] at hb
    rcases hb with rfl | rfl | rfl | rfl
    · exact rq_b64Char_ok _
    · exact rq_b64Char_ok _
    · decide
    · decide
  | case3 a c =>
    intro b hb
    simp only [b64Encode, List.mem_cons, List.not_mem_nil, or_false] at hb
    rcases hb with rfl | rfl | rfl | rfl
    · exact rq_b64Char_ok _
    · exact rq_b64Char_ok _
    · exact rq_b64Char_ok _
    · decide
  | case4 a c d rest ih =>
    intro b hb
    simp only [b64Encode, List.mem_cons] at hb
    rcases hb with rfl | rfl | rfl | rfl | hb
    · exact rq_b64Char_ok _
    · exact rq_b64Char_ok _
    · exact rq_b64Char_ok _
    · exact rq_b64Char_ok _
    · exact ih b hb

/-- every equation of `b64Encode` for a non-empty input starts with a `cons` -/
theorem rq_b64Encode_ne_nil : ∀ x : Bytes, x ≠ [] → b64Encode x ≠ []
  | [], h => absurd rfl h
  | [_], _ | [_, _], _ | _ :: _ :: _ :: _, _ => List.cons_ne_nil _ _

theorem rq_basic_WFValue (x : Bytes) (h : x ≠ []) : rqWFValue (str "Basic " ++ b64Encode x) := by
  have hb := rq_b64Encode_bytes x
  obtain ⟨c, hl⟩ := Option.isSome_iff_exists.1 (List.getLast?_isSome.2 (rq_b64Encode_ne_nil x h))
  have hc := hb c (List.mem_of_getLast? hl)
  rw [rq_str_basic]
  refine ⟨?_, by simp, by simp, ?_, ?_⟩
  · intro b hb'
    simp only [List.mem_append] at hb'
    rcases hb' with hb' | hb'
    · revert b; decide
    · exact (hb b hb').1
  · rw [List.getLast?_append, hl]; simpa using hc.2.1
  · rw [List.getLast?_append, hl]; simpa using hc.2.2

/-! ### the CONNECT head parses -/

theorem rq_connectFields_WF (p : Url) (hh : rqWFValue (p.host ++ [58] ++ natDigits p.effPort)) :
    (rqConnectFields p).WFHead := by
  intro q hq
  simp only [rqConnectFields, List.mem_cons, List.not_mem_nil, or_false] at hq
  rcases hq with rfl | rfl | rfl
  · exact ⟨show rqToken (str "Host") by decide +kernel, hh⟩
  · exact ⟨show rqToken (str "Connection") by decide +kernel, show rqWFValue (str "close") by decide +kernel⟩
  · exact ⟨show rqToken (str "Proxy-Authorization") by decide +kernel, rq_basic_WFValue _ (by simp)⟩

theorem rq_connect_framing (p : Url) : rqFraming (rqConnectFields p) = some .none := by
  have h1 : lowerBytes (str "Host") = str "host" := by decide +kernel
  have h2 : lowerBytes (str "Connection") = str "connection" := by decide +kernel
  have h3 : lowerBytes (str "Proxy-Authorization") = str "proxy-authorization" := by decide +kernel
  simp [rqConnectFields, rqFraming, rqFieldValues, h1, h2, h3]

end Atto
