/-
  Atto/Lemmas/ProxyLemmas.lean — helper lemmas for property C11 (proxy choice): `endsWith`,
  `noProxyMatch`, `ProxySettings.forUrl`, `getEnv`; and the example data of Props/C11 (`px_url`,
  `px_parse`, `px_env0`).
-/
import Atto.Model.Proxy
import Atto.Lemmas.Str
namespace Atto
namespace Px

/-! ### byte-string constants -/

theorem px_str_http : str "http" = [104, 116, 116, 112] := by decide +kernel
theorem px_str_https : str "https" = [104, 116, 116, 112, 115] := by decide +kernel
theorem px_str_star : str "*" = [42] := by decide +kernel
theorem px_http_ne_https : str "http" ≠ str "https" := by simp [str_inj]

/-! ### `endsWith` -/

theorem px_endsWith_iff (s suf : Bytes) : endsWith s suf = true ↔ ∃ pre, s = pre ++ suf := by
  unfold endsWith
  simp only [Bool.and_eq_true, decide_eq_true_eq, beq_iff_eq]
  constructor
  · rintro ⟨_, hd⟩
    refine ⟨s.take (s.length - suf.length), ?_⟩
    conv => lhs; rw [← List.take_append_drop (s.length - suf.length) s]
    rw [hd]
  · rintro ⟨pre, rfl⟩
    simp

/-! ### `noProxyMatch` -/

theorem px_match_iff (h e : Bytes) :
    noProxyMatch h e = true ↔ e ≠ [] ∧ (h = e ∨ ∃ pre, h = pre ++ [46] ++ e) := by
  unfold noProxyMatch
  simp only [Bool.and_eq_true, Bool.or_eq_true, decide_eq_true_eq, beq_iff_eq, px_endsWith_iff,
    List.append_assoc]

theorem px_match_false_iff (h e : Bytes) :
    noProxyMatch h e = false ↔ (e = [] ∨ (h ≠ e ∧ ∀ pre, h ≠ pre ++ [46] ++ e)) := by
  rw [← Bool.not_eq_true, px_match_iff]
  by_cases he : e = [] <;> simp [he, not_or]

theorem px_match_empty (h : Bytes) : noProxyMatch h [] = false := by
  simp [noProxyMatch]

/-! ### `forUrl` -/

theorem px_forUrl_disabled (s : ProxySettings) (u : Url) : s.disabled = true → s.forUrl u = none := by
  intro h; simp [ProxySettings.forUrl, h]

/-- a matching `no_proxy` entry vetoes every proxy -/
theorem px_forUrl_excluded {s : ProxySettings} {u : Url}
    (ha : ∃ e ∈ s.noProxy, noProxyMatch u.host (lowerBytes e) = true) : s.forUrl u = none := by
  have : s.noProxy.any (fun e => noProxyMatch u.host (lowerBytes e)) = true := List.any_eq_true.mpr ha
  simp [ProxySettings.forUrl, this]

/-- `for_url` once its two vetoes are out of the way: the proxy configured for the scheme -/
theorem px_forUrl_enabled {s : ProxySettings} {u : Url} (hd : s.disabled = false)
    (ha : ∀ e ∈ s.noProxy, noProxyMatch u.host (lowerBytes e) = false) :
    s.forUrl u = if u.scheme = str "http" then s.httpProxy
      else if u.scheme = str "https" then s.httpsProxy else none := by
  have : s.noProxy.any (fun e => noProxyMatch u.host (lowerBytes e)) = false := List.any_eq_false.mpr
    (fun e he => by simp [ha e he])
  simp [ProxySettings.forUrl, hd, this]

/-- Only the empty entry lower-cases to the empty one. -/
theorem px_lower_eq_nil (e : Bytes) : lowerBytes e = [] ↔ e = [] := by
  simp [lowerBytes]

/-- an empty `no_proxy` entry matches no host, so dropping such entries changes nothing -/
theorem px_forUrl_filter (s : ProxySettings) (u : Url) :
    ({ s with noProxy := s.noProxy.filter (fun e => e != []) } : ProxySettings).forUrl u = s.forUrl u := by
  have : ∀ e : Bytes, (e != [] && noProxyMatch u.host (lowerBytes e)) = noProxyMatch u.host (lowerBytes e) := by
    intro e
    by_cases he : e = []
    · subst he
      rw [show lowerBytes ([] : Bytes) = [] from rfl, px_match_empty]; rfl
    · simp [he]
  simp only [ProxySettings.forUrl, List.any_filter, this]

/-! ### environment -/

theorem px_getEnv_lower (v : Bytes) (up : Option Bytes) : getEnv (some v) up = some v := rfl
theorem px_getEnv_upper (up : Option Bytes) : getEnv none up = up := rfl

theorem px_getEnv_congr {lo up lo' up' : Option Bytes} (h1 : lo = lo') (h2 : lo = none → up = up') :
    getEnv lo up = getEnv lo' up' := by
  subst h1
  cases lo with
  | none => simp [getEnv, h2 rfl]
  | some v => rfl

/-! ### example data -/

/-- Example data: a URL record with default port. -/
def px_url (scheme host : String) (effPort : Nat) : Url :=
  { scheme := str scheme, user := [], pass := none, host := str host, hostKind := 0, port := none,
    effPort := effPort, path := str "/", query := none, fragment := none }

/-- Example `Url::parse` stand-in: recognises three fixed values. -/
def px_parse (v : Bytes) : Option Url :=
  if v = str "http://p1:3128" then some { px_url "http" "p1" 3128 with port := some 3128 }
  else if v = str "http://p2:3128" then some { px_url "http" "p2" 3128 with port := some 3128 }
  else if v = str "socks5://p3" then some (px_url "socks5" "p3" 1080)
  else none

def px_env0 : Env :=
  { all_proxy := none, ALL_PROXY := none, http_proxy := none, HTTP_PROXY := none,
    https_proxy := none, HTTPS_PROXY := none, no_proxy := none, NO_PROXY := none }

end Px
end Atto
