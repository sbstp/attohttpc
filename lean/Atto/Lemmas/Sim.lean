/-
  Atto/Lemmas/Sim.lean — if two sources simulate each other on the two primitives (and agree on `size`,
  the fuel of the header loop), every reader built from them (read_line, read_line_strict,
  read_line_ending, parse_response_head, the chunked decoder) produces the same results on both.  Instantiated with (BufReader model, flat stream) this
  is segmentation independence.
-/
import Atto.Lemmas.Prog
import Atto.Lemmas.HeadFlat
import Atto.Model.Reads
namespace Atto

/-- `x` (concrete) and `y` (abstract) agree on the result, the states correspond, and the concrete
    invariant is re-established. -/
def Rel (abs : σ → τ) (inv : σ → Prop) (x : RR α × σ) (y : RR α × τ) : Prop :=
  x.1 = y.1 ∧ abs x.2 = y.2 ∧ inv x.2

structure Sim (S : Src σ) (T : Src τ) (abs : σ → τ) (inv : σ → Prop) : Prop where
  exact : ∀ s n, inv s → Rel abs inv (S.readExact s n) (T.readExact (abs s) n)
  until_ : ∀ s l, inv s → Rel abs inv (S.readUntil s l) (T.readUntil (abs s) l)
  size : ∀ s, inv s → S.size s = T.size (abs s)

variable {σ τ : Type} {S : Src σ} {T : Src τ} {abs : σ → τ} {inv : σ → Prop}

/-- every reader at once: two sources that simulate each other run a program alike -/
theorem Prog.run_sim (h : Sim S T abs inv) (p : Prog β) : ∀ s, inv s →
    (p.run S s).1 = (p.run T (abs s)).1 ∧ abs (p.run S s).2 = (p.run T (abs s)).2 ∧
      inv (p.run S s).2 := by
  induction p with
  | ret v => intro s hi; exact ⟨rfl, rfl, hi⟩
  | exact n k ih =>
    intro s hi
    obtain ⟨h1, h2, h3⟩ := h.exact s n hi
    rw [Prog.run_exact, Prog.run_exact, ← h1, ← h2]
    exact ih _ _ h3
  | until_ l k ih =>
    intro s hi
    obtain ⟨h1, h2, h3⟩ := h.until_ s l hi
    rw [Prog.run_until, Prog.run_until, ← h1, ← h2]
    exact ih _ _ h3

theorem Rel.elim {x : RR α × σ} {y : RR α × τ} (h : Rel abs inv x y) :
    ∃ a b, x = (a, b) ∧ y = (a, abs b) ∧ inv b := by
  obtain ⟨a, b⟩ := x
  obtain ⟨c, d⟩ := y
  obtain ⟨h1, h2, h3⟩ := h
  simp only at h1 h2 h3
  subst h1 h2
  exact ⟨a, b, rfl, rfl, h3⟩

theorem readLine_sim (h : Sim S T abs inv) (s : σ) (l : Nat) (hi : inv s) :
    Rel abs inv (readLine S s l) (readLine T (abs s) l) := by
  rw [readLine_eq_run, readLine_eq_run]
  exact Prog.run_sim h _ s hi

theorem readLineStrictLoop_sim (h : Sim S T abs inv) (fuel : Nat) :
    ∀ (s : σ) (l : Nat) (buf : Bytes), inv s →
    Rel abs inv (readLineStrictLoop S fuel s l buf) (readLineStrictLoop T fuel (abs s) l buf) := by
  induction fuel with
  | zero => intro s l buf hi; exact ⟨rfl, rfl, hi⟩
  | succ fuel ih =>
    intro s l buf hi
    unfold readLineStrictLoop
    obtain ⟨a, b, hx, hy, hb⟩ := (h.until_ s l hi).elim
    rw [hx, hy]
    cases a with
    | ok v =>
      simp only
      split
      · exact ⟨rfl, rfl, hb⟩
      · split
        · exact ⟨rfl, rfl, hb⟩
        · split
          · exact ⟨rfl, rfl, hb⟩
          · exact ih b _ _ hb
    | _ => exact ⟨rfl, rfl, hb⟩

theorem readLineStrict_sim (h : Sim S T abs inv) (s : σ) (l : Nat) (hi : inv s) :
    Rel abs inv (readLineStrict S s l) (readLineStrict T (abs s) l) :=
  readLineStrictLoop_sim h _ s l [] hi

theorem skipTrailers_sim (h : Sim S T abs inv) (s : σ) (hi : inv s) :
    Rel abs inv (skipTrailers S s) (skipTrailers T (abs s)) := by
  rw [skipTrailers, skipTrailers, skipTrailersLoop_eq_run, skipTrailersLoop_eq_run]
  exact Prog.run_sim h _ s hi

theorem chunkEnd_sim (h : Sim S T abs inv) (last : Bool) (s : σ) (hi : inv s) :
    Rel abs inv (chunkEnd S last s) (chunkEnd T last (abs s)) := by
  rw [chunkEnd_eq_run, chunkEnd_eq_run]
  exact Prog.run_sim h _ s hi

theorem parseHeadersLoop_sim (h : Sim S T abs inv) (fuel : Nat) :
    ∀ (s : σ) (mh cnt : Nat) (hs : Headers), inv s →
    Rel abs inv (parseHeadersLoop S fuel s mh cnt hs) (parseHeadersLoop T fuel (abs s) mh cnt hs) := by
  induction fuel with
  | zero => intro s mh cnt hs hi; exact ⟨rfl, rfl, hi⟩
  | succ fuel ih =>
    intro s mh cnt hs hi
    rw [parseHeadersLoop_succ, parseHeadersLoop_succ]
    obtain ⟨a, b, hx, hy, hb⟩ := (readLineStrict_sim h s Consts.maxLineLen hi).elim
    rw [hx, hy]
    cases a with
    | ok line =>
      simp only
      split
      · exact ⟨rfl, rfl, hb⟩
      · cases fieldStep mh line cnt hs with
        | error e => exact ⟨rfl, rfl, hb⟩
        | ok hs' => exact ih b mh _ hs' hb
    | _ => exact ⟨rfl, rfl, hb⟩

theorem parseResponseHead_sim (h : Sim S T abs inv) (s : σ) (mh : Nat) (hi : inv s) :
    Rel abs inv (parseResponseHead S s mh) (parseResponseHead T (abs s) mh) := by
  unfold parseResponseHead
  obtain ⟨a, b, hx, hy, hb⟩ := (readLine_sim h s Consts.maxLineLen hi).elim
  rw [hx, hy]
  cases a with
  | ok line =>
    simp only
    cases parseStatusLine line with
    | error e => exact ⟨rfl, rfl, hb⟩
    | ok status =>
      simp only
      have hf : headFuel S b = headFuel T (abs b) := by simp [headFuel, h.size b hb]
      obtain ⟨a2, b2, hx2, hy2, hb2⟩ := (parseHeadersLoop_sim h (headFuel S b) b mh 0 [] hb).elim
      rw [← hf, hx2, hy2]
      cases a2 <;> exact ⟨rfl, rfl, hb2⟩
  | _ => exact ⟨rfl, rfl, hb⟩


/-- The chunked decoder state seen through `abs`. -/
def Chunked.mapInner (f : σ → τ) (c : Chunked σ) : Chunked τ :=
  { inner := f c.inner, buffer := c.buffer, consumed := c.consumed, remaining := c.remaining,
    reachedEof := c.reachedEof, failed := c.failed }

abbrev RelC (abs : σ → τ) (inv : σ → Prop) (x : RR α × Chunked σ) (y : RR α × Chunked τ) : Prop :=
  Rel (Chunked.mapInner abs) (fun c => inv c.inner) x y

/-- every operation of the decoder at once -/
theorem lift_sim (h : Sim S T abs inv) (p : Prog (RR α × Core)) (s : σ) (hi : inv s) :
    RelC abs inv (lift (p.run S s)) (lift (p.run T (abs s))) := by
  obtain ⟨h1, h2, h3⟩ := Prog.run_sim h p s hi
  refine ⟨congrArg Prod.fst h1, ?_, h3⟩
  show ((p.run S s).1.2.over (p.run S s).2).mapInner abs =
    (p.run T (abs s)).1.2.over (p.run T (abs s)).2
  rw [← h1, ← h2]
  rfl

theorem Chunked.fillBuf_sim (h : Sim S T abs inv) (c : Chunked σ) (maxBuf : Nat) (hi : inv c.inner) :
    RelC abs inv (c.fillBuf S maxBuf) ((c.mapInner abs).fillBuf T maxBuf) := by
  rw [fillBuf_eq_run, fillBuf_eq_run]
  exact lift_sim h _ _ hi

theorem Chunked.read_sim (h : Sim S T abs inv) (c : Chunked σ) (maxBuf n : Nat) (hi : inv c.inner) :
    RelC abs inv (c.read S maxBuf n) ((c.mapInner abs).read T maxBuf n) := by
  rw [read_eq_run, read_eq_run]
  exact lift_sim h _ _ hi

/-- a whole read history on the decoder -/
theorem readsC_sim (h : Sim S T abs inv) (maxBuf : Nat) (ns : List Nat) :
    ∀ (c : Chunked σ), inv c.inner →
    (readsC S maxBuf ns c).1 = (readsC T maxBuf ns (c.mapInner abs)).1 ∧
    (readsC S maxBuf ns c).2.mapInner abs = (readsC T maxBuf ns (c.mapInner abs)).2 ∧
    inv (readsC S maxBuf ns c).2.inner := by
  induction ns with
  | nil => intro c hi; exact ⟨rfl, rfl, hi⟩
  | cons n ns ih =>
    intro c hi
    obtain ⟨a, b, hx, hy, hb⟩ := (Chunked.read_sim h c maxBuf n hi).elim
    simp only [readsC]
    rw [hx, hy]
    obtain ⟨h1, h2, h3⟩ := ih b hb
    exact ⟨by simp only [h1], h2, h3⟩

theorem bufSim : Sim bufSrc flatSrc BufR.flat BufR.Ok where
  exact := readExact_refines
  until_ := readUntil_refines
  size := fun _ _ => rfl

end Atto
