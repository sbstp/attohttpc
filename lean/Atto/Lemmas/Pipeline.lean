/-
  Atto/Lemmas/Pipeline.lean — glue between the real pipeline (`bufSrc` over an arbitrary scripted
  transport) and the flat-stream results of `Lemmas/HeadFlat.lean`: the head parser and
  `parse_response` over any segmentation in terms of the head parser on the flat stream (`head_flat`,
  `head_of_flat`, `parseResponse_flat`); `Decidable` instances for the well-formedness predicates.
-/
import Atto.Lemmas.Sim
import Atto.Model.Response
namespace Atto

/-- The head parser over the BufReader model, on ANY segmentation of the stream and any capacity,
    returns what it returns on the flat stream and leaves a healthy reader where the flat parser
    stops. -/
theorem head_flat (t : Transport) (cap mh : Nat) (hw : wfT t) (hc : 0 < cap) :
    ∃ r1, parseResponseHead bufSrc { buf := [], cap := cap, inner := t } mh =
        ((parseResponseHead flatSrc (flatT t) mh).1, r1) ∧
      r1.flat = (parseResponseHead flatSrc (flatT t) mh).2 ∧ r1.Ok := by
  obtain ⟨a, b, hx, hy, hb⟩ := (parseResponseHead_sim bufSim
    { buf := [], cap := cap, inner := t } mh ⟨hw, hc⟩).elim
  rw [show BufR.flat { buf := [], cap := cap, inner := t } = flatT t by simp [BufR.flat]] at hy
  exact ⟨b, by rw [hx, hy], by rw [hy], hb⟩

/-- the same, for a known result on the flat stream -/
theorem head_of_flat (t : Transport) (cap mh : Nat) (hw : wfT t) (hc : 0 < cap)
    {res : RR (Nat × Headers)} {rest : List Item}
    (hf : parseResponseHead flatSrc (flatT t) mh = (res, rest)) :
    ∃ r1, parseResponseHead bufSrc { buf := [], cap := cap, inner := t } mh = (res, r1) ∧
      r1.flat = rest ∧ r1.Ok := by
  have := head_flat t cap mh hw hc
  rwa [hf] at this

/-- `parse_response` over any segmentation, in terms of the head parser on the flat stream -/
theorem parseResponse_flat (t : Transport) (cap mh : Nat) (hwf : wfT t) (hcap : 0 < cap) :
    ∃ r1, r1.Ok ∧ r1.flat = (parseResponseHead flatSrc (flatT t) mh).2 ∧
      ∀ m, parseResponse m mh cap t =
        match (parseResponseHead flatSrc (flatT t) mh).1 with
        | .ok (status, hs) =>
          (match chooseFraming m status hs with
           | .error e => .err e
           | .ok f => .ok {
               status := status, headers := hs.remove nameTE, rawHeaders := hs,
               coding := codingFor (bodyless m status) m hs, body := Body.new f r1 })
        | .err e => .err e
        | .blocked => .blocked
        | .panic => .panic := by
  obtain ⟨r1, h1, h2, h3⟩ := head_flat t cap mh hwf hcap
  refine ⟨r1, h3, h2, fun m => ?_⟩
  simp only [parseResponse, h1]
  rcases (parseResponseHead flatSrc (flatT t) mh).1 with ⟨status, hs⟩ | e | _ | _ <;> rfl

/-! ### decidability of the well-formedness predicates (for the non-vacuity examples) -/

instance FieldS.decWF (l : Nat) (f : FieldS) : Decidable (f.WF l) := by
  unfold FieldS.WF; infer_instance
instance HeadS.decWF (l : Nat) (h : HeadS) : Decidable (h.WF l) := by
  unfold HeadS.WF; infer_instance
instance wfT.dec : (t : Transport) → Decidable (wfT t)
  | [] => isTrue trivial
  | .data _ :: r => @instDecidableAnd _ _ _ (wfT.dec r)
  | .err _ :: r => wfT.dec r
  | .pause :: r => wfT.dec r
instance BufR.decOk (r : BufR) : Decidable r.Ok := by unfold BufR.Ok; infer_instance
instance FieldLinesOK.dec (lines : List Bytes) : Decidable (FieldLinesOK lines) := by
  unfold FieldLinesOK; infer_instance

end Atto
