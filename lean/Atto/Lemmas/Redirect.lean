/-
  Atto/Lemmas/Redirect.lean — helper definitions and lemmas for properties C09 / C10:
  the redirect loop `sendLoop` unfolded into one equation per branch, the list of URLs it visits,
  an inductive characterisation (`Trace`), `sendLoop` as an instance of the generic `hopLoop`
  (`sendLoop_eq`; one hop is `rd_step` and `rd_obs`), and the generic facts read for `sendLoop`
  (`sendLoop_cons`, `rd_outs_length`, `sendLoop_last`) and for `send` (`send_outs`).
-/
import Atto.Lemmas.HopLoop
import Atto.Lemmas.RqHeaders
namespace Atto
namespace Rd

/-- The CONNECT-tunnel branch of `sendLoop` is taken for `url`. -/
def rd_tunnels (s : SendSettings) (url : Url) : Bool :=
  (s.proxy.forUrl url).isSome && url.scheme == str "https"

/-- Plain http through a proxy (absolute-form request target, `Host` = the proxy's authority). -/
def rd_plainViaProxy (s : SendSettings) (url : Url) : Bool :=
  url.scheme == str "http" && (s.proxy.forUrl url).isSome

/-- The URL whose authority goes into `Host` on the hop for `url`. -/
def rd_hostUrl (s : SendSettings) (url : Url) : Url :=
  match s.proxy.forUrl url with
  | some p => if url.scheme == str "http" then p else url
  | none => url

/-- The header map used on the hop for `url`, given the map `hdrs` left by the previous hop. -/
def rd_hopHdrs (s : SendSettings) (hdrs : Headers) (url : Url) : Headers :=
  match s.proxy.forUrl url with
  | some p => if url.scheme == str "http" then setHost hdrs p else setHost hdrs url
  | none => setHost hdrs url

theorem rd_hopHdrs_eq (s : SendSettings) (hdrs : Headers) (url : Url) :
    rd_hopHdrs s hdrs url = setHost hdrs (rd_hostUrl s url) := by
  unfold rd_hopHdrs rd_hostUrl
  cases s.proxy.forUrl url with
  | none => rfl
  | some p => by_cases h : (url.scheme == str "http") = true <;> simp [h]

/-- Who is dialled on the hop for `url`. -/
def rd_target (s : SendSettings) (url : Url) : Url := (s.proxy.forUrl url).getD url

/-- The body written on a hop. -/
def rd_body (req : Req) (first : Bool) : BodyM :=
  if first || req.bodyRewindable then req.body else { req.body with writes := [] }

/-- The observation of a non-tunnel hop. -/
def rd_plainOut (s : SendSettings) (req : Req) (url : Url) (hdrs : Headers) (first : Bool) : HopOut :=
  { dialScheme := (rd_target s url).scheme, dialHost := (rd_target s url).host,
    dialPort := (rd_target s url).effPort,
    wrote := writeRequest req.method url (rd_plainViaProxy s url) (rd_hopHdrs s hdrs url)
      (rd_body req first),
    tlsName := none }

/-- The observation of a tunnel hop whose outcome is `f`. -/
def rd_tunnelOut (s : SendSettings) (url : Url) (f : Final) : HopOut :=
  match f with
  | .tlsStarted =>
    { dialScheme := (rd_target s url).scheme, dialHost := (rd_target s url).host,
      dialPort := (rd_target s url).effPort, wrote := connectRequest url (rd_target s url),
      tlsName := some url.host, tlsNameIsDomain := url.hostKind != 1 }
  | _ =>
    { dialScheme := (rd_target s url).scheme, dialHost := (rd_target s url).host,
      dialPort := (rd_target s url).effPort, wrote := connectRequest url (rd_target s url),
      tlsName := none }

theorem rd_tunnels_none {s : SendSettings} {u : Url} : s.proxy.forUrl u = none → rd_tunnels s u = false := by
  intro h; simp [rd_tunnels, h]

/-- `Host` names the proxy exactly for plain http through a proxy, the URL's own authority otherwise. -/
theorem rd_hostUrl_eq (s : SendSettings) (u : Url) :
    rd_hostUrl s u = if rd_plainViaProxy s u = true then rd_target s u else u := by
  unfold rd_hostUrl rd_plainViaProxy rd_target
  cases s.proxy.forUrl u with
  | none => simp
  | some p => by_cases h : (u.scheme == str "http") = true <;> simp [h]

/-! ### `exchange` -/

theorem rd_exchange_err {s : SendSettings} {req : Req} {cap n : Nat} {url : Url} {hop : Hop} {e : E} :
    parseResponse req.methodM s.maxHeaders cap hop.script = .err e →
    exchange s req cap n url hop = .final (.err e) := by
  intro h; simp [exchange, h]

theorem rd_exchange_blocked {s : SendSettings} {req : Req} {cap n : Nat} {url : Url} {hop : Hop} :
    parseResponse req.methodM s.maxHeaders cap hop.script = .blocked →
    exchange s req cap n url hop = .final .blocked := by
  intro h; simp [exchange, h]

theorem rd_exchange_panic {s : SendSettings} {req : Req} {cap n : Nat} {url : Url} {hop : Hop} :
    parseResponse req.methodM s.maxHeaders cap hop.script = .panic →
    exchange s req cap n url hop = .final .panic := by
  intro h; simp [exchange, h]

/-- `exchange` follows only under all of these conditions. -/
theorem rd_exchange_follow_inv {s : SendSettings} {req : Req} {cap n : Nat} {url : Url} {hop : Hop}
    {next : Url} :
    exchange s req cap n url hop = .follow next →
    ∃ resp v, parseResponse req.methodM s.maxHeaders cap hop.script = .ok resp ∧
      s.followRedirects = true ∧ isRedirectStatus resp.status = true ∧
      n + 1 ≤ s.maxRedirections ∧ resp.headers.get (hName "location") = some v ∧
      hop.resolved = some next ∧ undialable next = none := by
  intro h
  -- every other way through `exchange` ends in `.final`
  cases hp : parseResponse req.methodM s.maxHeaders cap hop.script with
  | err e => simp [exchange, hp] at h
  | blocked => simp [exchange, hp] at h
  | panic => simp [exchange, hp] at h
  | ok resp =>
    cases hf : s.followRedirects with
    | false => simp [exchange, hp, hf] at h
    | true =>
      cases hr : isRedirectStatus resp.status with
      | false => simp [exchange, hp, hr] at h
      | true =>
        by_cases hn : n + 1 > s.maxRedirections
        · simp [exchange, hp, hf, hr, hn] at h
        · cases hl : resp.headers.get (hName "location") with
          | none => simp [exchange, hp, hf, hr, hn, hl] at h
          | some v =>
            cases hres : hop.resolved with
            | none => simp [exchange, hp, hf, hr, hn, hl, hres] at h
            | some nx =>
              cases hd : undialable nx with
              | some e => simp [exchange, hp, hf, hr, hn, hl, hres, hd] at h
              | none =>
                simp only [exchange, hp, hf, hr, hn, hl, hres, hd, Bool.not_true, Bool.or_self,
                  Bool.false_eq_true, if_false, HopRes.follow.injEq] at h
                exact ⟨resp, v, rfl, rfl, hr, by omega, hl, h ▸ rfl, h ▸ hd⟩

/-! ### `sendLoop`, one equation per branch -/

theorem rd_sendLoop_nil (s : SendSettings) (req : Req) (cap : Nat) (url : Url) (n : Nat)
    (hdrs : Headers) (first : Bool) :
    sendLoop s req cap [] url n hdrs first = ([], .outOfHops) := rfl

theorem rd_sendLoop_cons (s : SendSettings) (req : Req) (cap : Nat) (hop : Hop) (rest : List Hop)
    (url : Url) (n : Nat) (hdrs : Headers) (first : Bool) :
    sendLoop s req cap (hop :: rest) url n hdrs first =
      if rd_tunnels s url = true then
        ([rd_tunnelOut s url (initiateTunnel s.maxHeaders cap hop.script)],
          initiateTunnel s.maxHeaders cap hop.script)
      else
        match exchange s req cap n url hop with
        | .final f => ([rd_plainOut s req url hdrs first], f)
        | .follow next =>
          match rest with
          | [] => ([rd_plainOut s req url hdrs first], .outOfHops)
          | _ :: _ =>
            (rd_plainOut s req url hdrs first ::
              (sendLoop s req cap rest next (n + 1) (rd_hopHdrs s hdrs url) false).1,
             (sendLoop s req cap rest next (n + 1) (rd_hopHdrs s hdrs url) false).2) := by
  rw [sendLoop]
  by_cases ht : rd_tunnels s url = true
  · have ht' : ((s.proxy.forUrl url).isSome && url.scheme == str "https") = true := ht
    simp only [ht, ht', if_true]
    cases initiateTunnel s.maxHeaders cap hop.script <;> rfl
  · have ht' : ¬ ((s.proxy.forUrl url).isSome && url.scheme == str "https") = true := ht
    simp only [ht, ht']
    rfl

section
variable {s : SendSettings} {req : Req} {cap n : Nat} {hop : Hop} {rest : List Hop} {url : Url}
  {hdrs : Headers} {first : Bool}

theorem rd_sendLoop_tunnel :
    rd_tunnels s url = true →
    sendLoop s req cap (hop :: rest) url n hdrs first =
      ([rd_tunnelOut s url (initiateTunnel s.maxHeaders cap hop.script)],
        initiateTunnel s.maxHeaders cap hop.script) := by
  intro h; rw [rd_sendLoop_cons]; simp [h]

theorem rd_sendLoop_final {f : Final} :
    rd_tunnels s url = false → exchange s req cap n url hop = .final f →
    sendLoop s req cap (hop :: rest) url n hdrs first = ([rd_plainOut s req url hdrs first], f) := by
  intro h he; rw [rd_sendLoop_cons]; simp [h, he]

theorem rd_sendLoop_follow_nil {next : Url} :
    rd_tunnels s url = false → exchange s req cap n url hop = .follow next →
    sendLoop s req cap [hop] url n hdrs first = ([rd_plainOut s req url hdrs first], .outOfHops) := by
  intro h he; rw [rd_sendLoop_cons]; simp [h, he]

theorem rd_sendLoop_follow_cons {h2 : Hop} {next : Url} :
    rd_tunnels s url = false → exchange s req cap n url hop = .follow next →
    sendLoop s req cap (hop :: h2 :: rest) url n hdrs first =
      (rd_plainOut s req url hdrs first ::
        (sendLoop s req cap (h2 :: rest) next (n + 1) (rd_hopHdrs s hdrs url) false).1,
       (sendLoop s req cap (h2 :: rest) next (n + 1) (rd_hopHdrs s hdrs url) false).2) := by
  intro h he; rw [rd_sendLoop_cons]; simp [h, he]

end

/-! ### the URLs visited -/

/-- The URLs used for the successive hops (mirrors the loop; independent of the headers). -/
def rd_urls (s : SendSettings) (req : Req) (cap : Nat) : List Hop → Url → Nat → List Url
  | [], _, _ => []
  | hop :: rest, url, n =>
    if rd_tunnels s url then [url]
    else match exchange s req cap n url hop with
      | .final _ => [url]
      | .follow next =>
        match rest with
        | [] => [url]
        | _ :: _ => url :: rd_urls s req cap rest next (n + 1)

/-- The header maps left by the previous hop, for a list of hop URLs. -/
def rd_hdrsSeq (s : SendSettings) : Headers → List Url → List Headers
  | _, [] => []
  | h, u :: us => h :: rd_hdrsSeq s (rd_hopHdrs s h u) us

/-- Inductive characterisation of the redirect loop: `Trace s req cap hops url n us f` —
    starting at `url` with `n` redirections already followed and the connections `hops`, the hops
    go to the URLs `us` in this order and the outcome is `f`. -/
inductive Trace (s : SendSettings) (req : Req) (cap : Nat) :
    List Hop → Url → Nat → List Url → Final → Prop
  | noHop (url n) : Trace s req cap [] url n [] .outOfHops
  | tunnel (hop rest url n) : rd_tunnels s url = true →
      Trace s req cap (hop :: rest) url n [url] (initiateTunnel s.maxHeaders cap hop.script)
  | final (hop rest url n f) : rd_tunnels s url = false →
      exchange s req cap n url hop = .final f →
      Trace s req cap (hop :: rest) url n [url] f
  | followEnd (hop url n next) : rd_tunnels s url = false →
      exchange s req cap n url hop = .follow next →
      Trace s req cap [hop] url n [url] .outOfHops
  | follow (hop h2 rest url n next us f) : rd_tunnels s url = false →
      exchange s req cap n url hop = .follow next →
      Trace s req cap (h2 :: rest) next (n + 1) us f →
      Trace s req cap (hop :: h2 :: rest) url n (url :: us) f

theorem rd_trace (s : SendSettings) (req : Req) (cap : Nat) (hops : List Hop) :
    ∀ (url : Url) (n : Nat) (hdrs : Headers) (first : Bool),
      Trace s req cap hops url n (rd_urls s req cap hops url n)
        (sendLoop s req cap hops url n hdrs first).2 := by
  induction hops with
  | nil => intro url n hdrs first; exact Trace.noHop url n
  | cons hop rest ih =>
    intro url n hdrs first
    cases ht : rd_tunnels s url with
    | true =>
      rw [rd_sendLoop_tunnel ht]
      simp only [rd_urls, ht, if_true]
      exact Trace.tunnel hop rest url n ht
    | false =>
      cases he : exchange s req cap n url hop with
      | final f =>
        rw [rd_sendLoop_final ht he]
        simp only [rd_urls, ht, he, Bool.false_eq_true, if_false]
        exact Trace.final hop rest url n f ht he
      | follow next =>
        cases rest with
        | nil =>
          rw [rd_sendLoop_follow_nil ht he]
          simp only [rd_urls, ht, he, Bool.false_eq_true, if_false]
          exact Trace.followEnd hop url n next ht he
        | cons h2 rest =>
          rw [rd_sendLoop_follow_cons ht he]
          have := ih next (n + 1) (rd_hopHdrs s hdrs url) false
          rw [rd_urls]
          simp only [ht, he, Bool.false_eq_true, if_false]
          exact Trace.follow hop h2 rest url n next _ _ ht he this

/-- A trace gives the URLs and the outcome of the loop: it is a function of the inputs. -/
theorem rd_trace_eq {s : SendSettings} {req : Req} {cap : Nat} {hops : List Hop} {url : Url}
    {n : Nat} {us : List Url} {f : Final} (h : Trace s req cap hops url n us f) :
    ∀ (hdrs : Headers) (first : Bool),
      us = rd_urls s req cap hops url n ∧ f = (sendLoop s req cap hops url n hdrs first).2 := by
  induction h with
  | noHop url n => intro _ _; exact ⟨rfl, rfl⟩
  | tunnel hop rest url n ht =>
    intro hdrs first; rw [rd_sendLoop_tunnel ht]; simp [rd_urls, ht]
  | final hop rest url n f ht he =>
    intro hdrs first; rw [rd_sendLoop_final ht he]; simp [rd_urls, ht, he]
  | followEnd hop url n next ht he =>
    intro hdrs first; rw [rd_sendLoop_follow_nil ht he]; simp [rd_urls, ht, he]
  | follow hop h2 rest url n next us f ht he _ ih =>
    intro hdrs first
    obtain ⟨h1, h2'⟩ := ih (rd_hopHdrs s hdrs url) false
    rw [rd_sendLoop_follow_cons ht he, rd_urls]
    simp [ht, he, ← h1, ← h2']

/-! ### `sendLoop` is a `hopLoop` -/

/-- how the hop made for `url` ends: a tunnel hop ends the loop with what `initiateTunnel` says -/
def rd_step (s : SendSettings) (req : Req) (cap n : Nat) (hop : Hop) (url : Url) : HopRes :=
  if rd_tunnels s url then .final (initiateTunnel s.maxHeaders cap hop.script)
  else exchange s req cap n url hop

/-- what is observed on the hop made for `url` -/
def rd_obs (s : SendSettings) (req : Req) (cap : Nat) (hop : Hop) (url : Url) (hdrs : Headers)
    (first : Bool) : HopOut :=
  if rd_tunnels s url then rd_tunnelOut s url (initiateTunnel s.maxHeaders cap hop.script)
  else rd_plainOut s req url hdrs first

section
variable {s : SendSettings} {req : Req} {cap n : Nat} {hop : Hop} {url : Url} {hdrs : Headers} {first : Bool}

theorem rd_step_plain (ht : rd_tunnels s url = false) : rd_step s req cap n hop url = exchange s req cap n url hop := by
  simp [rd_step, ht]

theorem rd_step_tunnel (ht : rd_tunnels s url = true) :
    rd_step s req cap n hop url = .final (initiateTunnel s.maxHeaders cap hop.script) := by
  simp [rd_step, ht]

/-- a hop is followed only as `exchange` follows: below the limit, to the URL its `Location` resolved to -/
theorem rd_step_follow_inv {next : Url} :
    rd_step s req cap n hop url = .follow next →
    exchange s req cap n url hop = .follow next ∧ n + 1 ≤ s.maxRedirections ∧
      hop.resolved = some next := by
  unfold rd_step
  split
  · intro h; cases h
  · intro h
    obtain ⟨_, _, _, _, _, hn, _, hr, _⟩ := rd_exchange_follow_inv h
    exact ⟨h, hn, hr⟩

/-- A final `.ok` of a hop carries the URL of that hop (and a tunnel hop never ends with `.ok`). -/
theorem rd_step_ok_url {st : Nat} {u : Url} : rd_step s req cap n hop url = .final (.ok st u) → u = url := by
  cases ht : rd_tunnels s url with
  | true =>
    -- no branch of `initiateTunnel` ends with `.ok`
    rw [rd_step_tunnel ht]
    unfold initiateTunnel
    grind
  | false =>
    -- one branch of `exchange` ends with `.ok`, and it carries `url`
    rw [rd_step_plain ht]
    unfold exchange
    grind

theorem rd_obs_plain (h : rd_tunnels s url = false) :
    rd_obs s req cap hop url hdrs first = rd_plainOut s req url hdrs first := by
  simp [rd_obs, h]

theorem rd_obs_tunnel (h : rd_tunnels s url = true) :
    rd_obs s req cap hop url hdrs first = rd_tunnelOut s url (initiateTunnel s.maxHeaders cap hop.script) := by
  simp [rd_obs, h]

end

/-- whatever the hop: who is dialled -/
theorem rd_obs_dial (s : SendSettings) (req : Req) (cap : Nat) (hop : Hop) (u : Url) (hdrs : Headers)
    (first : Bool) :
    (rd_obs s req cap hop u hdrs first).dialScheme = (rd_target s u).scheme ∧
    (rd_obs s req cap hop u hdrs first).dialHost = (rd_target s u).host ∧
    (rd_obs s req cap hop u hdrs first).dialPort = (rd_target s u).effPort := by
  unfold rd_obs rd_tunnelOut
  split
  · split <;> exact ⟨rfl, rfl, rfl⟩
  · exact ⟨rfl, rfl, rfl⟩

/-- the observation of a hop has a TLS name exactly when the hop ends with `tlsStarted` -/
theorem rd_obs_tls_iff (s : SendSettings) (req : Req) (cap n : Nat) (hop : Hop) (u : Url) (hdrs : Headers)
    (first : Bool) :
    (rd_obs s req cap hop u hdrs first).tlsName.isSome ↔ rd_step s req cap n hop u = .final .tlsStarted := by
  cases ht : rd_tunnels s u with
  | false =>
    rw [rd_obs_plain ht, rd_step_plain ht]
    -- no branch of `exchange` ends with `.tlsStarted`
    have : exchange s req cap n u hop ≠ .final .tlsStarted := by
      unfold exchange
      grind
    exact ⟨fun h => (by cases h), fun h => absurd h this⟩
  | true =>
    rw [rd_obs_tunnel ht, rd_step_tunnel ht]
    cases initiateTunnel s.maxHeaders cap hop.script <;> simp [rd_tunnelOut]

theorem sendLoop_eq (s : SendSettings) (req : Req) (cap : Nat) (hops : List Hop) :
    ∀ url n hdrs first, sendLoop s req cap hops url n hdrs first =
      hopLoop (rd_hopHdrs s) (rd_step s req cap) (rd_obs s req cap) hops url n hdrs first := by
  refine hopLoop_unique _ (rd_sendLoop_nil s req cap) (fun hop rest url n hdrs first => ?_) hops
  rw [rd_sendLoop_cons]
  cases ht : rd_tunnels s url with
  | true => simp [rd_step, rd_obs, ht]
  | false =>
    simp only [rd_step, rd_obs, ht, Bool.false_eq_true, if_false]
    rfl

theorem rd_urls_eq (s : SendSettings) (req : Req) (cap : Nat) (hops : List Hop) :
    ∀ url n, rd_urls s req cap hops url n = hopUrls (rd_step s req cap) hops url n := by
  refine hopUrls_unique _ (fun _ _ => rfl) (fun hop rest url n => ?_) hops
  rw [rd_urls]
  cases ht : rd_tunnels s url with
  | true => simp [rd_step, ht]
  | false =>
    simp only [rd_step, ht, Bool.false_eq_true, if_false]
    rfl

theorem rd_hdrsSeq_eq (s : SendSettings) (us : List Url) :
    ∀ h, rd_hdrsSeq s h us = hdrsSeq (rd_hopHdrs s) h us := by
  induction us with
  | nil => intro h; rfl
  | cons u us ih => intro h; simp only [rd_hdrsSeq, hdrsSeq, ih]

/-- The first connection is always made. -/
theorem sendLoop_cons (s : SendSettings) (req : Req) (cap : Nat) (hop : Hop) (rest : List Hop) (url : Url)
    (n : Nat) (hdrs : Headers) (first : Bool) :
    ∃ tail f, sendLoop s req cap (hop :: rest) url n hdrs first =
      (rd_obs s req cap hop url hdrs first :: tail, f) := by
  rw [sendLoop_eq]
  cases h : rd_step s req cap n hop url with
  | final f => exact ⟨[], f, hopLoop_final h⟩
  | follow next => exact ⟨_, _, hopLoop_follow h⟩

/-- One observation per URL visited. -/
theorem rd_outs_length (s : SendSettings) (req : Req) (cap : Nat) (hops : List Hop) (url : Url) (n : Nat)
    (hdrs : Headers) (first : Bool) :
    (sendLoop s req cap hops url n hdrs first).1.length = (rd_urls s req cap hops url n).length := by
  rw [sendLoop_eq, rd_urls_eq, hopLoop_length]

/-- The last observation and the outcome come from one step, made for the last URL (`hopLoop_last`). -/
theorem sendLoop_last (s : SendSettings) (req : Req) (cap : Nat) (hops : List Hop) (url : Url) (n : Nat)
    (hdrs : Headers) (first : Bool) (hne : hops ≠ []) :
    ∃ hop u hin fl m, hop ∈ hops ∧ u ∈ (rd_urls s req cap hops url n).getLast? ∧
      (sendLoop s req cap hops url n hdrs first).1.getLast? = some (rd_obs s req cap hop u hin fl) ∧
      (rd_step s req cap m hop u = .final (sendLoop s req cap hops url n hdrs first).2 ∨
        (∃ next, rd_step s req cap m hop u = .follow next) ∧
          (sendLoop s req cap hops url n hdrs first).2 = .outOfHops) := by
  rw [sendLoop_eq, rd_urls_eq]
  exact hopLoop_last hops url n hdrs first hne

/-! ### the header map on every hop -/

/-- every header map carried along the chain is the start map, up to the `Host` that the next
    `set_host` replaces anyway -/
theorem rd_hdrsSeq_setHost (s : SendSettings) (us : List Url) :
    ∀ (hdrs : Headers) (i : Nat) (hin : Headers),
      (rd_hdrsSeq s hdrs us)[i]? = some hin → ∀ v, setHost hin v = setHost hdrs v := by
  induction us with
  | nil => intro hdrs i hin h; simp [rd_hdrsSeq] at h
  | cons u us ih =>
    intro hdrs i hin h v
    cases i with
    | zero => simp [rd_hdrsSeq] at h; rw [← h]
    | succ i =>
      simp only [rd_hdrsSeq, List.getElem?_cons_succ] at h
      rw [ih _ i hin h v, rd_hopHdrs_eq, rq_setHost_setHost]

/-! ### `send` -/

/-- The URLs used for the successive hops of `send s req cap url hops`. -/
def urlsVisited (s : SendSettings) (req : Req) (cap : Nat) (url : Url) (hops : List Hop) : List Url :=
  rd_urls s req cap hops url 0

/-- The header map *left by the previous hop* for each hop of `send` (the map used on hop `i` is
    `rd_hopHdrs s (hdrsVisited …)[i] u_i`). -/
def hdrsVisited (s : SendSettings) (req : Req) (cap : Nat) (url : Url) (hops : List Hop) : List Headers :=
  rd_hdrsSeq s req.headers (urlsVisited s req cap url hops)

/-- Hop `i` of `send`. -/
theorem send_outs {s : SendSettings} {req : Req} {cap : Nat} {url : Url} {hops : List Hop} {i : Nat}
    {out : HopOut} : (send s req cap url hops).1[i]? = some out →
    ∃ u hin hop, (urlsVisited s req cap url hops)[i]? = some u ∧
      (hdrsVisited s req cap url hops)[i]? = some hin ∧ hops[i]? = some hop ∧
      out = rd_obs s req cap hop u hin (i == 0) := by
  unfold send hdrsVisited urlsVisited
  rw [sendLoop_eq, rd_urls_eq, rd_hdrsSeq_eq]
  intro h
  obtain ⟨u, hin, hop, h1, h2, h3, h4⟩ := hopLoop_get_some h
  exact ⟨u, hin, hop, h1, h2, h3, by simpa using h4⟩

end Rd
end Atto
