/-
  Atto/Lemmas/WatchdogStepsLemmas.lean — the interleaving model of the deadline watchdog
  (Atto/Model/WatchdogSteps.lean): runs, reachability, the invariant `Inv dropFirst` of every state
  reachable from `init` (for BOTH source orders), the consequences for a read, and the simulation
  `Rel` that ties the model with `dropFirst = true` to the atomic model (Atto/Model/Watchdog.lean).
  Used by Atto/Props/C13s.lean.
-/
import Atto.Model.WatchdogSteps
import Atto.Lemmas.WatchdogLemmas
namespace Atto
namespace WdS

/-! ### runs -/

theorem run_nil (df : Bool) (s : St) : run df s [] = some (s, []) := rfl

theorem run_cons {df : Bool} {s s' : St} {a : Act} {rest : List Act} {outs : List Out} :
    run df s (a :: rest) = some (s', outs) ↔
      ∃ s1 o os, step df s a = some (s1, o) ∧ run df s1 rest = some (s', os) ∧ outs = o.toList ++ os := by
  simp only [run]
  constructor
  · intro h
    split at h
    · cases h
    · next s1 o hst =>
      split at h
      · cases h
      · next s2 os hr =>
        injection h with h; injection h with h1 h2
        exact ⟨s1, o, os, hst, by rw [hr, h1], h2.symm⟩
  · rintro ⟨s1, o, os, hst, hr, rfl⟩
    simp [hst, hr]

theorem run_append {df : Bool} {s s1 s' : St} {l1 l2 : List Act} {o1 o2 : List Out}
    (h1 : run df s l1 = some (s1, o1)) (h2 : run df s1 l2 = some (s', o2)) :
    run df s (l1 ++ l2) = some (s', o1 ++ o2) := by
  induction l1 generalizing s o1 with
  | nil => cases h1; exact h2
  | cons a rest ih =>
    obtain ⟨s2, o, os, hst, hr, rfl⟩ := run_cons.mp h1
    exact run_cons.mpr ⟨s2, o, os ++ o2, hst, ih hr, List.append_assoc ..⟩

/-- `s` is reachable from `init` by SOME interleaving of enabled actions -/
def Reach (df : Bool) (s : St) : Prop := ∃ acts outs, run df init acts = some (s, outs)

theorem Reach.start (df : Bool) : Reach df init := ⟨[], [], rfl⟩

theorem Reach.next {df : Bool} {s s' : St} {a : Act} {o : Option Out} (r : Reach df s)
    (h : WdS.step df s a = some (s', o)) : Reach df s' := by
  obtain ⟨acts, outs, hr⟩ := r
  exact ⟨acts ++ [a], _, run_append hr (run_cons.mpr ⟨s', o, [], h, rfl, rfl⟩)⟩

theorem Reach.along {df : Bool} {s s' : St} {acts : List Act} {outs : List Out} (r : Reach df s)
    (h : WdS.run df s acts = some (s', outs)) : Reach df s' := by
  obtain ⟨a0, o0, hr⟩ := r
  exact ⟨a0 ++ acts, o0 ++ outs, run_append hr h⟩

/-- Induction along a run, for states and outputs together: every step of the run keeps `P`, and
    what it returns satisfies `Q`. -/
theorem run_induct {df : Bool} {P : St → Prop} {Q : Out → Prop} {acts : List Act}
    (hstep : ∀ s a s' o, a ∈ acts → P s → step df s a = some (s', o) → P s' ∧ ∀ x ∈ o, Q x)
    {s s' : St} {outs : List Out} (h : run df s acts = some (s', outs)) (hp : P s) :
    P s' ∧ ∀ x ∈ outs, Q x := by
  induction acts generalizing s outs with
  | nil => cases h; exact ⟨hp, fun _ h => nomatch h⟩
  | cons a rest ih =>
    obtain ⟨s1, o, os, hst, hr, rfl⟩ := run_cons.mp h
    obtain ⟨h1, h2⟩ := hstep _ _ _ _ (List.mem_cons_self ..) hp hst
    obtain ⟨h3, h4⟩ := ih (fun s a s' o ha => hstep s a s' o (List.mem_cons_of_mem _ ha)) hr h1
    refine ⟨h3, fun x hx => ?_⟩
    rcases List.mem_append.mp hx with hx | hx
    · exact h2 x (by simpa using hx)
    · exact h4 x hx

theorem run_preserves {df : Bool} {P : St → Prop}
    (hstep : ∀ s a s' o, P s → step df s a = some (s', o) → P s')
    {s s' : St} {acts : List Act} {outs : List Out} (h : run df s acts = some (s', outs)) (hp : P s) :
    P s' :=
  (run_induct (Q := fun _ => True) (fun s a s' o _ hp hst => ⟨hstep s a s' o hp hst, fun _ _ => trivial⟩)
    h hp).1

/-! ### the steps, by cases -/

/-- the ways a `read` can go -/
inductive ReadCase (s : St) (n : Nat) : St × Out → Prop where
  | data : 0 < s.pending →
      ReadCase s n ({ s with pending := s.pending - min n s.pending }, .data (min n s.pending))
  | eofReleased : s.pending = 0 → (s.peerClosed = true ∨ s.shut = true) → s.hasTx = false →
      ReadCase s n (s, .eof)
  | eofPingWaiting : s.pending = 0 → (s.peerClosed = true ∨ s.shut = true) → s.hasTx = true →
      s.rxAlive = true → s.pc = .waiting →
      ReadCase s n ({ s with pc := .exited, rxAlive := false, hasTx := false }, .eof)
  | eofPingLate : s.pending = 0 → (s.peerClosed = true ∨ s.shut = true) → s.hasTx = true →
      s.rxAlive = true → s.pc ≠ .waiting →
      ReadCase s n ({ s with hasTx := false }, .eof)
  | pingFailed : s.pending = 0 → (s.peerClosed = true ∨ s.shut = true) → s.hasTx = true →
      s.rxAlive = false → ReadCase s n (s, .timedOut)

/-- the ping succeeds iff the receiver exists; a watchdog that is still waiting receives it and ends -/
theorem ping_eq (s : St) :
    ping s = if s.rxAlive then
        (true, if s.pc = .waiting then { s with pc := .exited, rxAlive := false } else s)
      else (false, s) := by
  unfold ping
  split
  · cases s.pc <;> rfl
  · rfl

theorem ping_fst (s : St) : (ping s).1 = s.rxAlive := by
  rw [ping_eq]; split <;> simp_all

theorem read_cases {s : St} {n : Nat} {r : St × Out} (h : read s n = some r) :
    0 < n ∧ ReadCase s n r := by
  unfold read at h
  split at h
  · cases h
  next hn =>
  refine ⟨Nat.pos_of_ne_zero hn, ?_⟩
  split at h
  · next hp => cases h; exact .data hp
  next hp =>
  have hp0 : s.pending = 0 := by omega
  split at h
  · next hz =>
    have hz' : s.peerClosed = true ∨ s.shut = true := by simpa using hz
    split at h
    · next hx =>
      rw [ping_eq] at h
      by_cases hrx : s.rxAlive = true
      · rw [if_pos hrx] at h
        by_cases hpc : s.pc = .waiting
        · rw [if_pos hpc] at h; cases h; exact .eofPingWaiting hp0 hz' hx hrx hpc
        · rw [if_neg hpc] at h; cases h; exact .eofPingLate hp0 hz' hx hrx hpc
      · rw [if_neg hrx] at h; cases h; exact .pingFailed hp0 hz' hx (by simpa using hrx)
    · next hx => cases h; exact .eofReleased hp0 hz' (by simpa using hx)
  · cases h

theorem step_read_iff {df : Bool} {s s' : St} {n : Nat} {x : Out} :
    step df s (.read n) = some (s', some x) ↔ read s n = some (s', x) := by
  simp only [step]
  constructor
  · intro h; split at h
    · next hr => cases h; exact hr
    · cases h
  · intro h; rw [h]

/-- every enabled step, by cases; the two actions of the deadline branch written out for the order `df` -/
inductive StepCase (df : Bool) (s : St) : Act → St → Option Out → Prop where
  | tick : StepCase df s .tick { s with due := true } none
  | send (n : Nat) : s.shut = false → StepCase df s (.send n) { s with pending := s.pending + n } none
  | close : StepCase df s .close { s with peerClosed := true } none
  | drop : StepCase df s .dropResponse { s with hasTx := false } none
  | fire1 : s.pc = .waiting → s.due = true → StepCase df s .wdFire
      { s with pc := .afterFirst, rxAlive := !df && s.rxAlive, shut := !df || s.shut } none
  | fire2 : s.pc = .afterFirst → StepCase df s .wdFire
      { s with pc := .done, rxAlive := df && s.rxAlive, shut := df || s.shut } none
  | exit : s.pc = .waiting → s.hasTx = false →
      StepCase df s .wdExit { s with pc := .exited, rxAlive := false } none
  | read {n : Nat} {s' : St} {x : Out} : 0 < n → ReadCase s n (s', x) → StepCase df s (.read n) s' (some x)

theorem step_cases {df : Bool} {s s' : St} {a : Act} {o : Option Out}
    (h : step df s a = some (s', o)) : StepCase df s a s' o := by
  cases a with
  | tick => cases h; exact .tick
  | send n =>
    simp only [step] at h; split at h
    · cases h
    · next hs => cases h; exact .send n (by simpa using hs)
  | close => cases h; exact .close
  | dropResponse => cases h; exact .drop
  | wdFire =>
    simp only [step, wdFire] at h
    split at h
    · next s1 hw =>
      cases h
      split at hw
      · next hpc =>
        split at hw
        · next hd => cases hw; cases df <;> exact .fire1 hpc hd
        · cases hw
      · next hpc => cases hw; cases df <;> exact .fire2 hpc
      · cases hw
      · cases hw
    · cases h
  | wdExit =>
    simp only [step, wdExit] at h
    split at h
    · next s1 hw =>
      cases h
      split at hw
      · next hc => cases hw; exact .exit hc.1 hc.2
      · cases hw
    · cases h
  | read n =>
    cases o with
    | none => simp only [step] at h; split at h <;> cases h
    | some x =>
      obtain ⟨hn, hc⟩ := read_cases (step_read_iff.mp h)
      exact .read hn hc

/-- an output comes from a read -/
theorem step_out {df : Bool} {s s' : St} {a : Act} {x : Out} (h : step df s a = some (s', some x)) :
    ∃ n, a = .read n ∧ read s n = some (s', x) := by
  cases a with
  | read n => exact ⟨n, rfl, step_read_iff.mp h⟩
  | _ => cases step_cases h

/-! ### things that only ever go one way (both orders) -/

/-- From `s` to `s'` a dropped receiver stays dropped, a shut socket shut, a released sender released;
    a watchdog that has exited stays so and never touches the socket. -/
structure Mono (s s' : St) : Prop where
  rx : s.rxAlive = false → s'.rxAlive = false
  shut : s.shut = true → s'.shut = true
  tx : s.hasTx = false → s'.hasTx = false
  exited : s.pc = .exited → s'.pc = .exited ∧ s'.shut = s.shut

theorem Mono.refl (s : St) : Mono s s := ⟨id, id, id, fun h => ⟨h, rfl⟩⟩

theorem Mono.trans {s s1 s2 : St} (h1 : Mono s s1) (h2 : Mono s1 s2) : Mono s s2 :=
  ⟨fun h => h2.rx (h1.rx h), fun h => h2.shut (h1.shut h), fun h => h2.tx (h1.tx h), fun h =>
    ⟨(h2.exited (h1.exited h).1).1, ((h2.exited (h1.exited h).1).2).trans (h1.exited h).2⟩⟩

theorem step_mono {df : Bool} {s s' : St} {a : Act} {o : Option Out} (h : step df s a = some (s', o)) :
    Mono s s' := by
  -- a watchdog that has exited takes no step of its own: `fire1`, `fire2`, `exit` and the ping that
  -- releases it need `pc = .waiting` or `.afterFirst`
  cases step_cases h with
  | tick | send | close => exact ⟨id, id, id, fun h => ⟨h, rfl⟩⟩
  | drop => exact ⟨id, id, fun _ => rfl, fun h => ⟨h, rfl⟩⟩
  | fire1 hpc | fire2 hpc =>
    exact ⟨fun h => by simp [h], fun h => by simp [h], id, fun hp => nomatch hpc.symm.trans hp⟩
  | exit hpc => exact ⟨fun _ => rfl, id, id, fun hp => nomatch hpc.symm.trans hp⟩
  | read _ hr =>
    cases hr with
    | data => exact ⟨id, id, id, fun h => ⟨h, rfl⟩⟩
    | eofReleased => exact .refl s
    | eofPingWaiting _ _ _ _ hpc => exact ⟨fun _ => rfl, id, fun _ => rfl, fun hp => nomatch hpc.symm.trans hp⟩
    | eofPingLate => exact ⟨id, id, fun _ => rfl, fun h => ⟨h, rfl⟩⟩
    | pingFailed => exact .refl s

theorem run_mono {df : Bool} {s s' : St} {acts : List Act} {outs : List Out}
    (h : run df s acts = some (s', outs)) : Mono s s' :=
  run_preserves (P := Mono s) (fun _ _ _ _ hp hst => hp.trans (step_mono hst)) h (.refl s)

/-- the sender is never handed back -/
theorem hasTx_run {df : Bool} {s s' : St} {acts : List Act} {outs : List Out}
    (hr : run df s acts = some (s', outs)) (hx : s'.hasTx = true) : s.hasTx = true := by
  cases h : s.hasTx with
  | true => rfl
  | false => rw [(run_mono hr).tx h] at hx; cases hx

/-- only `close` changes `peerClosed`; only dropping the response or a read returning `Ok(0)` takes
    the sender away -/
theorem step_frame {df : Bool} {s s' : St} {a : Act} {o : Option Out} (h : step df s a = some (s', o)) :
    (s'.peerClosed = s.peerClosed ∨ a = .close) ∧
    (s'.hasTx = s.hasTx ∨ a = .dropResponse ∨ o = some .eof) := by
  cases step_cases h with
  | read _ hr => cases hr <;> simp
  | _ => simp

/-! ### the invariant (both orders) -/

/-- What holds in every state reachable from `init`: the program counter of the watchdog determines
    `rxAlive` and `shut` (given the source order `df`); an exited watchdog means the sender is gone;
    the deadline branch is entered only once the deadline has been reached. -/
structure Inv (df : Bool) (s : St) : Prop where
  rx : s.rxAlive = (decide (s.pc = .waiting) || (decide (s.pc = .afterFirst) && !df))
  sh : s.shut = (decide (s.pc = .done) || (decide (s.pc = .afterFirst) && !df))
  exited_noTx : s.pc = .exited → s.hasTx = false
  fired_due : s.pc = .afterFirst ∨ s.pc = .done → s.due = true

theorem inv_init (df : Bool) : Inv df init := by
  constructor <;> simp [init]

theorem inv_step {df : Bool} {s s' : St} {a : Act} {o : Option Out} (h : Inv df s)
    (hst : step df s a = some (s', o)) : Inv df s' := by
  obtain ⟨h1, h2, h3, h4⟩ := h
  cases step_cases hst with
  | tick => exact ⟨h1, h2, h3, fun _ => rfl⟩
  | send | close => exact ⟨h1, h2, h3, h4⟩
  | drop => exact ⟨h1, h2, fun _ => rfl, h4⟩
  | fire1 hpc hd => rw [hpc] at h1 h2; cases df <;> constructor <;> simp_all
  | fire2 hpc => rw [hpc] at h1 h2; cases df <;> constructor <;> simp_all
  | exit hpc hx => constructor <;> simp_all
  | read _ hr =>
    cases hr with
    | eofPingWaiting => constructor <;> simp_all
    | eofPingLate => exact ⟨h1, h2, fun _ => rfl, h4⟩
    | _ => exact ⟨h1, h2, h3, h4⟩

theorem inv_run {df : Bool} {s s' : St} {acts : List Act} {outs : List Out} (h : Inv df s)
    (hr : run df s acts = some (s', outs)) : Inv df s' :=
  run_preserves (fun _ _ _ _ hp hst => inv_step hp hst) hr h

theorem inv_reach {df : Bool} {s : St} (r : Reach df s) : Inv df s :=
  let ⟨_, _, hr⟩ := r; inv_run (inv_init df) hr

/-! ### order (1);(2): what the invariant gives -/

/-- `drop(rx)` before `shutdown`: a shut socket means the receiver is gone -/
theorem inv_shut_rx_dead {s : St} (h : Inv true s) (hs : s.shut = true) : s.rxAlive = false := by
  obtain ⟨h1, h2, _, _⟩ := h
  cases hpc : s.pc <;> simp_all

/-- … and a live receiver means a watchdog that has not started to act -/
theorem inv_rx_alive_waiting {s : St} (h : Inv true s) (hr : s.rxAlive = true) :
    s.pc = .waiting ∧ s.shut = false := by
  obtain ⟨h1, h2, _, _⟩ := h
  cases hpc : s.pc <;> simp_all

theorem read_cut {s : St} (h : Inv true s) (n : Nat) (hn : 0 < n) (hs : s.shut = true)
    (hp : s.pending = 0) (hx : s.hasTx = true) : read s n = some (s, .timedOut) := by
  have hr := inv_shut_rx_dead h hs
  unfold read ping
  simp [Nat.ne_of_gt hn, hp, hs, hx, hr]

theorem read_eof_genuine {s s' : St} {n : Nat} (h : Inv true s) (hx : s.hasTx = true)
    (hr : read s n = some (s', .eof)) :
    s.peerClosed = true ∧ s.shut = false ∧ s.pc = .waiting ∧ s.pending = 0 ∧
      s' = { s with pc := .exited, rxAlive := false, hasTx := false } := by
  obtain ⟨_, hc⟩ := read_cases hr
  cases hc with
  | eofReleased _ _ hx' => rw [hx] at hx'; cases hx'
  | eofPingWaiting hp hz _ hrx hpc =>
    obtain ⟨_, hsh⟩ := inv_rx_alive_waiting h hrx
    exact ⟨by simpa [hsh] using hz, hsh, hpc, hp, rfl⟩
  | eofPingLate _ _ _ hrx hpc => exact absurd (inv_rx_alive_waiting h hrx).1 hpc

/-! ### both orders: a `TimedOut` needs the deadline -/

theorem read_timedOut_due {df : Bool} {s s' : St} {n : Nat} (h : Inv df s)
    (hr : read s n = some (s', .timedOut)) :
    s.due = true ∧ s.hasTx = true ∧ s.rxAlive = false ∧ s' = s := by
  obtain ⟨_, hc⟩ := read_cases hr
  cases hc with
  | pingFailed _ _ hx hrx =>
    refine ⟨?_, hx, hrx, rfl⟩
    obtain ⟨h1, _, h3, h4⟩ := h
    cases hpc : s.pc with
    | waiting => simp_all
    | afterFirst => exact h4 (.inl hpc)
    | done => exact h4 (.inr hpc)
    | exited => have := h3 hpc; rw [hx] at this; cases this

/-! ### both orders: after the end of the stream -/

/-- without the sender a read never reports a timeout -/
theorem noTx_step_out {df : Bool} {s s' : St} {a : Act} {x : Out}
    (h : step df s a = some (s', some x)) (hx : s.hasTx = false) : x = .eof ∨ ∃ k, x = .data k := by
  cases step_cases h with
  | read _ hr =>
    cases hr with
    | data => exact .inr ⟨_, rfl⟩
    | eofReleased => exact .inl rfl
    | eofPingWaiting _ _ hx' | eofPingLate _ _ hx' | pingFailed _ _ hx' => rw [hx] at hx'; cases hx'

theorem noTx_run {df : Bool} {s s' : St} {acts : List Act} {outs : List Out}
    (hr : run df s acts = some (s', outs)) (hx : s.hasTx = false) :
    ∀ x ∈ outs, x = .eof ∨ ∃ k, x = .data k :=
  (run_induct (P := fun s => s.hasTx = false) (fun _ _ _ _ _ hp hst =>
    ⟨(step_mono hst).tx hp, fun x hx => by cases hx; exact noTx_step_out hst hp⟩) hr hx).2

/-- a read that returns `Ok(0)` leaves the reader without its sender -/
theorem eof_step_noTx {df : Bool} {s s' : St} {a : Act}
    (h : step df s a = some (s', some .eof)) : s'.hasTx = false := by
  cases step_cases h with
  | read _ hr =>
    cases hr with
    | eofReleased _ _ hx => exact hx
    | eofPingWaiting | eofPingLate => rfl

/-- in a whole interleaving: whatever follows an `Ok(0)` is `Ok(0)` or data -/
theorem after_eof {df : Bool} {s s' : St} {acts : List Act} {outs o1 o2 : List Out}
    (hr : run df s acts = some (s', outs)) (ho : outs = o1 ++ .eof :: o2) :
    ∀ x ∈ o2, x = .eof ∨ ∃ k, x = .data k := by
  induction acts generalizing s outs o1 with
  | nil =>
    injection hr with hr; injection hr with _ h2; subst h2
    cases o1 <;> cases ho
  | cons a rest ih =>
    obtain ⟨s1, o, os, hst, hr1, rfl⟩ := run_cons.mp hr
    cases o with
    | none => exact ih hr1 (by simpa using ho)
    | some y =>
      cases o1 with
      | nil =>
        simp only [Option.toList, List.cons_append, List.nil_append, List.cons.injEq] at ho
        obtain ⟨hy, hos⟩ := ho
        subst hy; subst hos
        exact noTx_run hr1 (eof_step_noTx hst)
      | cons z o1' =>
        simp only [Option.toList, List.cons_append, List.nil_append, List.cons.injEq] at ho
        exact ih hr1 ho.2

/-! ### while the response is alive and the peer has not closed -/

/-- Order (1);(2).  In an interleaving in which the peer never closes and the response is not
    dropped, no read returns `Ok(0)` — and the response stays alive, the peer open. -/
theorem no_close_no_eof {s s' : St} {acts : List Act} {outs : List Out} (hi : Inv true s)
    (hx : s.hasTx = true) (hp : s.peerClosed = false) (hr : run true s acts = some (s', outs))
    (hnc : Act.close ∉ acts) (hnd : Act.dropResponse ∉ acts) :
    Out.eof ∉ outs ∧ s'.hasTx = true ∧ s'.peerClosed = false := by
  have := run_induct (P := fun s => Inv true s ∧ s.hasTx = true ∧ s.peerClosed = false)
    (Q := fun x => x ≠ .eof) (fun s a s1 o ha ⟨hi, hx, hp⟩ hst => by
      have hne : o ≠ some .eof := by
        rintro rfl
        obtain ⟨n, _, hrd⟩ := step_out hst
        have := (read_eof_genuine hi hx hrd).1
        rw [hp] at this; cases this
      obtain ⟨f1, f2⟩ := step_frame hst
      refine ⟨⟨inv_step hi hst, ?_, ?_⟩, fun x hx => by cases hx; exact fun h => hne (by rw [h])⟩
      · rcases f2 with f | f | f
        · rw [f]; exact hx
        · exact absurd (f ▸ ha) hnd
        · exact absurd f hne
      · rcases f1 with f | f
        · rw [f]; exact hp
        · exact absurd (f ▸ ha) hnc) hr ⟨hi, hx, hp⟩
  exact ⟨fun h => this.2 _ h rfl, this.1.2⟩

/-! ### order (1);(2): the atomic model (Atto/Model/Watchdog.lean) is a sound abstraction

  `Rel c a` relates a state `c` of the interleaving model to a state `a` of the atomic model
  `Atto.Wd`.  The atomic firing (`fireIfDue`: receiver dropped and socket shut in one step) is
  matched with action (1) `drop(rx)` — from that moment the ping fails in both models; action (2)
  is a stutter of the atomic model.  The atomic model's clock is the watchdog's view of time: its
  deadline event happens when the watchdog acts (`tick` is a stutter).  Three phases: armed, fired,
  and ended (a genuine end of stream has been passed on; the watchdog has exited).  Dropping the
  response while it is alive leaves the relation (there is no reader any more; the two models
  differ there: the atomic one lets the watchdog exit at once, here it may still fire).
  Bytes are not related beyond "nothing pending here ⇒ nothing buffered or queued there". -/

def absOut : Out → Wd.RdOut
  | .data k => .data k
  | .eof => .eof
  | .timedOut => .timedOut

structure Rel (c : St) (a : Wd.St) : Prop where
  tx : a.hasTx = c.hasTx
  pcl : a.peerClosed = c.peerClosed
  data : c.pending = 0 → a.buffered = 0 ∧ a.queued = 0
  phase :
    (c.hasTx = true ∧ c.pc = .waiting ∧ a.wd = .waiting ∧ a.now < a.deadline ∧ a.shut = false) ∨
    (c.hasTx = true ∧ (c.pc = .afterFirst ∨ c.pc = .done) ∧ a.wd = .fired ∧ a.shut = true ∧
      a.deadline ≤ a.now) ∨
    (c.hasTx = false ∧ c.pc = .exited ∧ a.wd = .exited ∧ c.peerClosed = true ∧ a.shut = false)

theorem rel_init (d rt : Nat) (hd : 0 < d) : Rel init (Wd.init d rt) :=
  ⟨rfl, rfl, fun _ => ⟨rfl, rfl⟩, .inl ⟨rfl, rfl, rfl, hd, rfl⟩⟩

/-- Outcome correspondence: an `Ok(0)` or a `TimedOut` returned by a read of the interleaving model
    is what the atomic model's `read` returns in any related state, and the states after the read
    are related again (the read moved no bytes there). -/
theorem read_refines {c c' : St} {a : Wd.St} {n : Nat} {x : Out} (hi : Inv true c) (hrel : Rel c a)
    (hr : read c n = some (c', x)) (hx : x = .eof ∨ x = .timedOut) :
    ∃ a', Wd.read a n = (absOut x, a') ∧ Rel c' a' ∧ a'.buffered = a.buffered ∧ a'.queued = a.queued := by
  obtain ⟨hn, hc⟩ := read_cases hr
  obtain ⟨h1, h2, h3, h4⟩ := hrel
  cases hc with
  | data => rcases hx with h | h <;> cases h
  | eofReleased hp hz htx =>
    obtain ⟨hb, hq⟩ := h3 hp
    obtain ⟨ht, _⟩ | ⟨ht, _⟩ | ⟨_, hpc, hwd, hpcl, hsh⟩ := h4
    · rw [htx] at ht; cases ht
    · rw [htx] at ht; cases ht
    · refine ⟨a, ?_, ⟨h1, h2, h3, .inr (.inr ⟨htx, hpc, hwd, hpcl, hsh⟩)⟩, rfl, rfl⟩
      rw [Wd.wd_done_read ⟨h1.trans htx, hb, hq, .inl (h2.trans hpcl)⟩,
        Wd.wd_fire_of_not_waiting (by rw [hwd]; simp)]; rfl
  | eofPingWaiting hp hz htx hrx hpc =>
    obtain ⟨hb, hq⟩ := h3 hp
    have hcsh := (inv_rx_alive_waiting hi hrx).2
    have hcl : c.peerClosed = true := by simpa [hcsh] using hz
    obtain ⟨_, _, hwd, hlt, hsh⟩ | ⟨_, hpc', _⟩ | ⟨ht, _⟩ := h4
    · exact ⟨_, Wd.wd_read_genuine n hlt hwd (h1.trans htx) (h2.trans hcl) hq hb,
        ⟨rfl, h2, h3, .inr (.inr ⟨rfl, rfl, rfl, hcl, hsh⟩)⟩, rfl, rfl⟩
    · rw [hpc] at hpc'; rcases hpc' with h | h <;> cases h
    · rw [htx] at ht; cases ht
  | eofPingLate _ _ _ hrx hpc => exact absurd (inv_rx_alive_waiting hi hrx).1 hpc
  | pingFailed hp hz htx hrx =>
    obtain ⟨hb, hq⟩ := h3 hp
    obtain ⟨_, hpc, _⟩ | ⟨_, hpc, hwd, hsh, hdl⟩ | ⟨ht, _⟩ := h4
    · have := hi.rx; rw [hrx, hpc] at this; simp at this
    · exact ⟨a, Wd.wd_cut n hwd hsh hq hb (h1.trans htx),
        ⟨h1, h2, h3, .inr (.inl ⟨htx, hpc, hwd, hsh, hdl⟩)⟩, rfl, rfl⟩
    · rw [htx] at ht; cases ht

/-- the end-of-stream / timeout results of an interleaving (data results dropped) -/
def endOf : Out → Option Wd.RdOut
  | .data _ => none
  | .eof => some .eof
  | .timedOut => some .timedOut

/-- the result carried by a read label of the atomic model -/
def lblOut : Wd.Lbl → Option Wd.RdOut
  | .read _ o => some o
  | _ => none

/-- One step of the interleaving model (order (1);(2)) is matched by zero or one steps of the atomic
    model, with the same end-of-stream / timeout result, and the states are related again.  The
    atomic side carries no bytes (`buffered = queued = 0`): arriving data and data reads are stutters. -/
theorem sim_step {c c' : St} {a : Wd.St} {act : Act} {o : Option Out} (hi : Inv true c)
    (hrel : Rel c a) (hb : a.buffered = 0) (hq : a.queued = 0) (hst : step true c act = some (c', o))
    (hnd : act = .dropResponse → c.hasTx = false) :
    ∃ l a', Wd.Trace a l a' ∧ l.filterMap lblOut = o.toList.filterMap endOf ∧ Rel c' a' ∧
      a'.buffered = 0 ∧ a'.queued = 0 := by
  have stutter : ∀ {c'}, Rel c' a → ∃ l a', Wd.Trace a l a' ∧ l.filterMap lblOut = [] ∧ Rel c' a' ∧
      a'.buffered = 0 ∧ a'.queued = 0 := fun h => ⟨[], a, .nil a, rfl, h, hb, hq⟩
  obtain ⟨h1, h2, h3, h4⟩ := hrel
  cases step_cases hst with
  | tick => exact stutter ⟨h1, h2, h3, h4⟩
  | send n => exact stutter ⟨h1, h2, fun _ => ⟨hb, hq⟩, h4⟩
  | close =>
    refine ⟨[.close], { a with peerClosed := true }, .cons (.close a) (.nil _), rfl,
      ⟨h1, rfl, h3, ?_⟩, hb, hq⟩
    obtain h | h | ⟨h1, h2, h3, _, h5⟩ := h4
    · exact .inl h
    · exact .inr (.inl h)
    · exact .inr (.inr ⟨h1, h2, h3, rfl, h5⟩)
  | drop =>
    have hx := hnd rfl
    refine stutter ⟨h1.trans hx, h2, h3, ?_⟩
    obtain ⟨h, _⟩ | ⟨h, _⟩ | ⟨_, h⟩ := h4
    · rw [hx] at h; cases h
    · rw [hx] at h; cases h
    · exact .inr (.inr ⟨rfl, h⟩)
  | fire1 hpc hd =>
    -- `drop(rx)`: the atomic model's clock reaches the deadline
    obtain ⟨hx, _, hw, _, _⟩ | ⟨_, h, _⟩ | ⟨_, h, _⟩ := h4
    · refine ⟨[.adv a.deadline], Wd.advance a a.deadline, .cons (.adv a _) (.nil _), rfl, ?_⟩
      rw [Wd.wd_adv_fires hw]
      exact ⟨⟨h1, h2, h3, .inr (.inl ⟨hx, .inl rfl, rfl, rfl, Nat.le_max_right ..⟩)⟩, hb, hq⟩
    · rw [hpc] at h; rcases h with h | h <;> cases h
    · rw [hpc] at h; cases h
  | fire2 hpc =>
    obtain ⟨_, h, _⟩ | ⟨hx, _, h⟩ | ⟨_, h, _⟩ := h4
    · rw [hpc] at h; cases h
    · exact stutter ⟨h1, h2, h3, .inr (.inl ⟨hx, .inr rfl, h⟩)⟩
    · rw [hpc] at h; cases h
  | exit hpc hx =>
    obtain ⟨h, _⟩ | ⟨_, h, _⟩ | ⟨_, h, _⟩ := h4
    · rw [hx] at h; cases h
    · rw [hpc] at h; rcases h with h | h <;> cases h
    · rw [hpc] at h; cases h
  | @read n _ x hn hc =>
    cases x with
    | data k => cases hc; exact stutter ⟨h1, h2, fun _ => ⟨hb, hq⟩, h4⟩
    | _ =>
      obtain ⟨a', e, hr', hb', hq'⟩ := read_refines hi ⟨h1, h2, h3, h4⟩ (step_read_iff.mp hst) (by simp)
      have hs := Wd.Step.read a n hn
      rw [e] at hs
      exact ⟨[.read n _], a', .cons hs (.nil _), rfl, hr', by rw [hb', hb], by rw [hq', hq]⟩

/-- Every interleaving in which the response is not dropped is matched by a run of the atomic model
    with the same sequence of end-of-stream / timeout results. -/
theorem sim_run {c c' : St} {a : Wd.St} {acts : List Act} {outs : List Out} (hi : Inv true c)
    (hrel : Rel c a) (hb : a.buffered = 0) (hq : a.queued = 0)
    (hr : run true c acts = some (c', outs)) (hnd : Act.dropResponse ∉ acts) :
    ∃ l a', Wd.Trace a l a' ∧ l.filterMap lblOut = outs.filterMap endOf ∧ Rel c' a' ∧
      a'.buffered = 0 ∧ a'.queued = 0 := by
  induction acts generalizing c a outs with
  | nil =>
    injection hr with hr; injection hr with h1 h2; subst h1; subst h2
    exact ⟨[], a, .nil a, rfl, hrel, hb, hq⟩
  | cons act rest ih =>
    obtain ⟨c1, o, os, hst, hr1, rfl⟩ := run_cons.mp hr
    obtain ⟨l1, a1, ht1, hl1, hrel1, hb1, hq1⟩ := sim_step hi hrel hb hq hst
      (fun h => absurd (by rw [h]; exact List.mem_cons_self ..) hnd)
    obtain ⟨l2, a2, ht2, hl2, hrel2, hb2, hq2⟩ := ih (inv_step hi hst) hrel1 hb1 hq1 hr1
      (fun h => hnd (List.mem_cons_of_mem _ h))
    exact ⟨l1 ++ l2, a2, ht1.append ht2, by rw [List.filterMap_append, List.filterMap_append, hl1, hl2],
      hrel2, hb2, hq2⟩

end WdS
end Atto

