/-
  Atto/Lemmas/NoPanic.lean — absence of panics in `parse_response` and in any sequence of `Body.read`s over
  the BufReader model, for any well-formed scripted transport: slice index, usize underflow, `Take`'s
  assert, and exhausted fuel of the loops these two run (`read_line_strict` and the header loop of
  the head parser; `read_exact` / `read_until` of the BufReader model under the chunked decoder).
  The fuel of `drain`, `finishBody` and `readToEndTake` is not covered here.

  The chunked decoder on the flat stream is dealt with in Lemmas/ChunkedFlat.lean
  (`read_flat_ne_panic`); here it is carried over to the BufReader model, next to the other framings.
-/
import Atto.Lemmas.Pipeline
import Atto.Lemmas.ChunkedFlat
namespace Atto

/-- Invariant of a `BodyReader`: the BufReader invariant, and for the chunked decoder
    `consumed ≤ buffer.len()` (the slice `&buffer[consumed..]` is in range). -/
def Body.Ok : Body → Prop
  | .chunked c => c.inner.Ok ∧ c.consumed ≤ c.buffer.length
  | .length r _ => r.Ok
  | .close r => r.Ok

theorem Body.new_ok (f : Framing) (r : BufR) (h : r.Ok) : (Body.new f r).Ok := by
  cases f <;> simp [Body.new, Body.Ok, h]

/-- a `BufReader::read` with any caller buffer size (0 included): no panic, at most `n` bytes -/
theorem bufRead_any (r : BufR) (n : Nat) (h : r.Ok) :
    (r.read n).1 ≠ .panic ∧ (r.read n).2.Ok ∧ ∀ bs, (r.read n).1 = .ok bs → bs.length ≤ n := by
  obtain ⟨hok, hm⟩ := read_any_spec r n h
  refine ⟨?_, hok, read_le r n⟩
  rcases hfl : r.flat with _ | ⟨(b | k | _), rest⟩ <;> rw [hfl] at hm <;> simp only at hm
  · rw [hm.1]; simp
  · obtain ⟨bs, e, _⟩ := hm; rw [e]; simp
  · rw [hm.1]; simp
  · rw [hm.1]; simp

/-- One `read` on a `BodyReader`: no panic (in particular `Take`'s `assert!(n <= limit)` holds:
    the inner read is asked for `min n limit` bytes and returns at most that), invariant kept. -/
theorem Body.read_no_panic (b : Body) (maxBuf n : Nat) (h : b.Ok) :
    (b.read maxBuf n).1 ≠ .panic ∧ (b.read maxBuf n).2.Ok := by
  cases b with
  | chunked c =>
    -- the decoder over the BufReader model does what it does on the flat stream
    obtain ⟨h1, h2, h3⟩ := Chunked.read_sim bufSim c maxBuf n h.1
    have hf := read_flat_ne_panic (c.mapInner BufR.flat) maxBuf n h.2
    rw [← h1, ← h2] at hf
    simp only [Body.read]
    exact ⟨hf.1, h3, hf.2⟩
  | close r =>
    obtain ⟨h1, h2, _⟩ := bufRead_any r n h
    simp only [Body.read]
    exact ⟨h1, h2⟩
  | length r limit =>
    simp only [Body.read]
    by_cases hl : limit = 0
    · simp only [hl, if_true]; exact ⟨by simp, by simpa [hl] using h⟩
    · simp only [hl, if_false]
      obtain ⟨h1, h2, h3⟩ := bufRead_any r (min n limit) h
      rcases hrd : r.read (min n limit) with ⟨res, r'⟩
      rw [hrd] at h1 h2 h3
      cases res with
      | ok bs =>
        have hle := h3 bs rfl
        have : ¬ limit < bs.length := by omega
        simp only [this, if_false]
        split
        · exact ⟨by simp, h2⟩
        · exact ⟨by simp, h2⟩
      | err e => exact ⟨by simp, h2⟩
      | blocked => exact ⟨by simp, h2⟩
      | panic => simp at h1

/-- A caller issuing any sequence of reads never observes a panic. -/
theorem reads_no_panic (maxBuf : Nat) (ns : List Nat) : ∀ (b : Body), b.Ok →
    (∀ e ∈ (reads maxBuf ns b).1, e ≠ Ev.panic) ∧ (reads maxBuf ns b).2.Ok := by
  induction ns with
  | nil => intro b h; exact ⟨by simp [reads], h⟩
  | cons n ns ih =>
    intro b h
    obtain ⟨h1, h2⟩ := Body.read_no_panic b maxBuf n h
    simp only [reads]
    rcases hrd : b.read maxBuf n with ⟨res, b'⟩
    rw [hrd] at h1 h2
    obtain ⟨i1, i2⟩ := ih b' h2
    refine ⟨?_, i2⟩
    intro e he
    simp only [List.mem_cons] at he
    rcases he with rfl | he
    · cases res with
      | panic => exact absurd rfl h1
      | _ => simp [Ev.ofRR]
    · exact i1 e he

/-- `parse_response` never panics and the body it returns satisfies the invariant. -/
theorem parseResponse_ok (m : Method) (t : Transport) (cap mh : Nat) (hw : wfT t) (hc : 0 < cap) :
    parseResponse m mh cap t ≠ .panic ∧
    ∀ resp, parseResponse m mh cap t = .ok resp →
      ∃ f r1, resp.body = Body.new f r1 ∧ r1.Ok ∧ chooseFraming m resp.status resp.rawHeaders = .ok f := by
  obtain ⟨r1, hok, -, hp⟩ := parseResponse_flat t cap mh hw hc
  have hnp := head_no_panic (flatT t) mh
  rw [hp m]
  revert hnp
  rcases (parseResponseHead flatSrc (flatT t) mh).1 with ⟨status, hs⟩ | e | _ | _ <;> intro hnp
  · simp only
    cases hf : chooseFraming m status hs with
    | error e => simp
    | ok f => exact ⟨by simp, fun resp hr => by cases hr; exact ⟨f, r1, rfl, hok, hf⟩⟩
  · simp
  · simp
  · exact absurd rfl hnp

end Atto
