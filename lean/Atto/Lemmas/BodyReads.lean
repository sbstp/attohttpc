/-
  Atto/Lemmas/BodyReads.lean — glue between the real pipeline model (`parseResponse`, `reads` over a
  scripted transport through the BufReader model) and the flat-stream theorems:
  * what a list of caller-visible events delivered (`deliveredEv`), runs of `reads`;
  * the head of a well-formed response is parsed whatever the segmentation (`head_buf`,
    `parseResponse_of_head`, and `parseResponse_framed` in the form the properties state their stream);
  * a chunked body read through the BufReader model produces the events of the flat decoder
    (`reads_chunked_flat`).
-/
import Atto.Lemmas.ChunkedFlat
import Atto.Lemmas.Pipeline
import Atto.Lemmas.Framing
namespace Atto

/-! ## Events -/

def Ev.isOk : Ev → Bool
  | .ok _ => true
  | _ => false

/-- the bytes an event hands to the caller -/
def Ev.bytes : Ev → Bytes
  | .ok bs => bs
  | _ => []

/-- concatenation of the payloads of the `.ok` events -/
def deliveredEv : List Ev → Bytes
  | [] => []
  | .ok bs :: es => bs ++ deliveredEv es
  | _ :: es => deliveredEv es

@[simp] theorem deliveredEv_nil : deliveredEv [] = [] := rfl

theorem deliveredEv_cons (e : Ev) (es : List Ev) :
    deliveredEv (e :: es) = e.bytes ++ deliveredEv es := by
  cases e <;> simp [deliveredEv, Ev.bytes]

theorem deliveredEv_take_prefix (evs : List Ev) (i : Nat) :
    deliveredEv (evs.take i) <+: deliveredEv evs := by
  induction evs generalizing i with
  | nil => simp
  | cons e es ih =>
    cases i with
    | zero => simp
    | succ i =>
      rw [List.take_succ_cons, deliveredEv_cons, deliveredEv_cons]
      exact (List.prefix_append_right_inj _).2 (ih i)

theorem deliveredEv_take_succ {evs : List Ev} {i : Nat} {bs : Bytes}
    (h : evs[i]? = some (.ok bs)) :
    deliveredEv (evs.take (i + 1)) = deliveredEv (evs.take i) ++ bs := by
  induction evs generalizing i with
  | nil => cases h
  | cons e es ih =>
    cases i with
    | zero => cases h; simp [deliveredEv]
    | succ i =>
      rw [List.take_succ_cons, List.take_succ_cons, deliveredEv_cons, deliveredEv_cons, ih h,
        List.append_assoc]

/-! ## Runs of reads on a body -/

theorem reads_cons (m n : Nat) (ns : List Nat) (b : Body) :
    (reads m (n :: ns) b).1 = Ev.ofRR (b.read m n).1 :: (reads m ns (b.read m n).2).1 := by
  rcases h : b.read m n with ⟨res, b'⟩
  simp [reads, h]

theorem reads_length (m : Nat) (ns : List Nat) (b : Body) : (reads m ns b).1.length = ns.length := by
  induction ns generalizing b with
  | nil => simp [reads]
  | cons n ns ih => simp [reads_cons, ih]

theorem reads_take (m : Nat) (ns : List Nat) (b : Body) (i : Nat) :
    (reads m ns b).1.take i = (reads m (ns.take i) b).1 := by
  induction ns generalizing b i with
  | nil => simp [reads]
  | cons n ns ih =>
    cases i with
    | zero => simp [reads]
    | succ i => simp [reads_cons, ih]

theorem chunked_read_eq (c : Chunked BufR) (m n : Nat) :
    (Body.chunked c).read m n = ((c.read bufSrc m n).1, .chunked (c.read bufSrc m n).2) := by
  simp [Body.read]

/-- the events of a chunked body are the results of the generic decoder over `bufSrc` -/
theorem reads_chunked (m : Nat) (ns : List Nat) (c : Chunked BufR) :
    (reads m ns (.chunked c)).1 = (readsC bufSrc m ns c).1.map Ev.ofRR := by
  induction ns generalizing c with
  | nil => simp [reads, readsC]
  | cons n ns ih =>
    rw [reads_cons, readsC_cons, chunked_read_eq]
    simp [ih]

/-- a chunked body behind the BufReader model over ANY well-formed transport produces the events of
    the decoder on the flat stream -/
theorem reads_chunked_flat (r1 : BufR) (hok : r1.Ok) (m : Nat) (ns : List Nat) :
    (reads m ns (.chunked { inner := r1 })).1 =
      (readsC flatSrc m ns (fresh r1.flat)).1.map Ev.ofRR := by
  rw [reads_chunked]
  have := (readsC_sim bufSim m ns ({ inner := r1 } : Chunked BufR) hok).1
  rw [this]
  rfl

/-! ## The head -/

/-- `parse_response` on a well-formed head: only the framing decision is left -/
theorem parseResponse_of_head (h : HeadS) (hh : h.WF Consts.maxLineLen) (rest : List Item)
    (t : Transport) (cap mh : Nat) (hwf : wfT t) (hcap : 0 < cap)
    (hmh : h.fields.length ≤ mh) (hms : h.fields.length ≤ Headers.maxSize)
    (hflat : flatT t = bytesI h.render ++ rest) :
    ∃ r1, r1.Ok ∧ r1.flat = rest ∧ ∀ m f, chooseFraming m h.code h.seen = .ok f →
      parseResponse m mh cap t = .ok {
        status := h.code, headers := h.seen.remove nameTE,
        rawHeaders := h.seen, coding := codingFor (bodyless m h.code) m h.seen, body := Body.new f r1 } := by
  obtain ⟨r1, hok, hfl, hp⟩ := parseResponse_flat t cap mh hwf hcap
  rw [hflat, head_roundtrip h hh rest mh hmh hms] at hfl hp
  exact ⟨r1, hok, hfl, fun m f hf => by simp only [hp, hf]⟩

/-- `parse_response` on a well-formed head followed by `w`: the response, its body reader standing
    at the start of `w` -/
theorem parseResponse_framed (h : HeadS) (hh : h.WF Consts.maxLineLen) (w : Bytes)
    (rest : List Item) (t : Transport) (cap mh : Nat) (hwf : wfT t) (hcap : 0 < cap)
    (hmh : h.fields.length ≤ mh) (hms : h.fields.length ≤ Headers.maxSize)
    (hflat : flatT t = bytesI (h.render ++ w) ++ rest) {m : Method} {f : Framing}
    (hf : chooseFraming m h.code h.seen = .ok f) :
    ∃ r1, r1.Ok ∧ r1.flat = bytesI w ++ rest ∧
      parseResponse m mh cap t = .ok {
        status := h.code, headers := h.seen.remove nameTE,
        rawHeaders := h.seen, coding := codingFor (bodyless m h.code) m h.seen, body := Body.new f r1 } := by
  obtain ⟨r1, hok, hfl, hp⟩ := parseResponse_of_head h hh (bytesI w ++ rest) t cap mh hwf hcap hmh hms
    (by rw [hflat, bytesI_append, List.append_assoc])
  exact ⟨r1, hok, hfl, hp m f hf⟩

/-- … when the stream ends with `w` -/
theorem parseResponse_framed_end (h : HeadS) (hh : h.WF Consts.maxLineLen) (w : Bytes)
    (t : Transport) (cap mh : Nat) (hwf : wfT t) (hcap : 0 < cap)
    (hmh : h.fields.length ≤ mh) (hms : h.fields.length ≤ Headers.maxSize)
    (hflat : flatT t = bytesI (h.render ++ w)) {m : Method} {f : Framing}
    (hf : chooseFraming m h.code h.seen = .ok f) :
    ∃ r1, r1.Ok ∧ r1.flat = bytesI w ∧
      parseResponse m mh cap t = .ok {
        status := h.code, headers := h.seen.remove nameTE,
        rawHeaders := h.seen, coding := codingFor (bodyless m h.code) m h.seen, body := Body.new f r1 } := by
  obtain ⟨r1, hok, hfl, hp⟩ := parseResponse_framed h hh w [] t cap mh hwf hcap hmh hms
    (by rw [hflat, List.append_nil]) hf
  exact ⟨r1, hok, by rw [hfl, List.append_nil], hp⟩

end Atto
