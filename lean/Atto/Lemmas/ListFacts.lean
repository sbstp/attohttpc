/-
  Atto/Lemmas/ListFacts.lean — facts about byte lists that need no stream: bytes as items (`bytesI`),
  `take`/`drop`, prefixes, `idxOf?`, `dropWhile` and `trim_byte` on padded values, `str::trim`
  (`strTrim_word`) and `validUtf8` on ASCII bytes.
-/
import Atto.Model.Lines
import Atto.Spec.ChunkedSpec
namespace Atto

@[simp] theorem bytesI_append (a b : Bytes) : bytesI (a ++ b) = bytesI a ++ bytesI b := by simp [bytesI]
@[simp] theorem bytesI_nil : bytesI [] = [] := rfl
@[simp] theorem bytesI_cons (b : UInt8) (bs : Bytes) : bytesI (b :: bs) = .byte b :: bytesI bs := rfl
@[simp] theorem bytesI_length (a : Bytes) : (bytesI a).length = a.length := by simp [bytesI]

theorem take_append_drop_min {α : Type} (l : List α) (n : Nat) :
    l.take n ++ l.drop (l.take n).length = l := by
  rw [List.length_take]
  by_cases h : n ≤ l.length
  · rw [Nat.min_eq_left h, List.take_append_drop]
  · rw [Nat.min_eq_right (by omega), List.drop_eq_nil_of_le (Nat.le_refl _),
      List.take_of_length_le (by omega), List.append_nil]

/-- a prefix of `a ++ c :: r` in which `c` does not occur lies inside `a` -/
theorem prefix_of_prefix_append_cons {α} {c : α} {r : List α} :
    ∀ {a l : List α}, l <+: a ++ c :: r → c ∉ l → l <+: a
  | _, [], _, _ => List.nil_prefix
  | [], z :: l, h, hc => absurd (List.cons_prefix_cons.mp h).1 (fun e => hc (by simp [e]))
  | y :: a, z :: l, h, hc =>
    have h := List.cons_prefix_cons.mp h
    List.cons_prefix_cons.mpr ⟨h.1, prefix_of_prefix_append_cons h.2 (fun m => hc (List.mem_cons_of_mem _ m))⟩

theorem idxOf?_append_cons (a : UInt8) (xs : Bytes) : ∀ (l : Bytes), a ∉ l →
    (l ++ a :: xs).idxOf? a = some l.length := by
  intro l
  induction l with
  | nil => intro _; simp [List.idxOf?_cons]
  | cons b l ih =>
    intro h
    have hb : (b == a) = false := by
      simp only [List.mem_cons, not_or] at h
      simpa using fun e => h.1 e.symm
    have hn : a ∉ l := by intro h'; exact h (by simp [h'])
    simp [List.idxOf?_cons, hb, ih hn]

theorem drop_length_succ {α : Type} (l : List α) (x : α) (xs : List α) :
    (l ++ x :: xs).drop (l.length + 1) = xs := by simp

theorem dropWhile_replicate_append (b : UInt8) (n : Nat) (ys : Bytes) :
    (List.replicate n b ++ ys).dropWhile (· == b) = ys.dropWhile (· == b) := by
  induction n with
  | zero => simp
  | succ n ih => simp [List.replicate_succ, ih]

theorem dropWhile_head_ne (b : UInt8) (ys : Bytes) (h : ys.head? ≠ some b) :
    ys.dropWhile (· == b) = ys := by
  cases ys with
  | nil => rfl
  | cons y ys =>
    have : (y == b) = false := by simpa using h
    simp [this]

theorem trimByte_padded (b : UInt8) (m n : Nat) (v : Bytes)
    (hh : v.head? ≠ some b) (hl : v.getLast? ≠ some b) :
    trimByte b (List.replicate m b ++ v ++ List.replicate n b) = v := by
  unfold trimByte trimLeft trimRight
  simp only [List.reverse_append, List.reverse_replicate, List.append_assoc]
  rw [dropWhile_replicate_append]
  by_cases hv : v = []
  · subst hv
    have : (List.replicate m b).dropWhile (· == b) = [] := by
      have := dropWhile_replicate_append b m []
      simp only [List.append_nil, List.dropWhile_nil] at this; exact this
    simp [this]
  · have hh' : (v.reverse ++ List.replicate m b).head? ≠ some b := by
      cases hr : v.reverse with
      | nil => simp at hr; exact absurd hr hv
      | cons y ys =>
        have : v.getLast? = some y := by
          rw [← List.head?_reverse, hr]; rfl
        simp only [List.cons_append, List.head?_cons]
        rw [← this]; exact hl
    rw [dropWhile_head_ne b _ hh']
    simp only [List.reverse_append, List.reverse_replicate, List.reverse_reverse]
    rw [dropWhile_replicate_append, dropWhile_head_ne b _ hh]

/-! ## prefixes, `take`, `getLast?` -/

theorem prefix_drop_nil_iff {α : Type} {p l : List α} (h : p <+: l) :
    l.drop p.length = [] ↔ p = l := by
  obtain ⟨s, rfl⟩ := h
  simp

theorem prefix_length_lt_iff {α : Type} {p l : List α} (h : p <+: l) :
    p.length < l.length ↔ l.drop p.length ≠ [] := by
  obtain ⟨s, rfl⟩ := h
  cases s <;> simp

theorem prefix_append_of_drop {α : Type} {p bs l : List α} (hp : p <+: l)
    (hb : bs <+: l.drop p.length) : p ++ bs <+: l := by
  obtain ⟨s, rfl⟩ := hp
  simp only [List.drop_left] at hb
  exact (List.prefix_append_right_inj p).2 hb

theorem take_ne_nil {α : Type} {l : List α} {n : Nat} (hl : l ≠ []) (hn : n ≠ 0) : l.take n ≠ [] :=
  fun h => (List.take_eq_nil_iff.mp h).elim hn hl

theorem getLast?_cons_of_some {α : Type} {a x : α} {l : List α} (h : l.getLast? = some x) :
    (a :: l).getLast? = some x := by
  cases l with
  | nil => simp at h
  | cons b l => simpa using h

/-! ## byte lists inside item lists -/

/-- bytes read off the front of `rem` followed by `Y`: what is left of `rem`, then `Y` -/
theorem bytesI_split (bs : Bytes) : ∀ (rem : Bytes) (X Y : List Item),
    bytesI bs ++ X = bytesI rem ++ Y → bs.length ≤ rem.length →
    rem = bs ++ rem.drop bs.length ∧ X = bytesI (rem.drop bs.length) ++ Y := by
  induction bs with
  | nil => intro rem X Y h _; simpa [bytesI] using h
  | cons b bs ih =>
    intro rem X Y h hl
    cases rem with
    | nil => simp at hl
    | cons c rem =>
      simp only [bytesI, List.map_cons, List.cons_append, List.cons.injEq, Item.byte.injEq] at h
      obtain ⟨rfl, h⟩ := h
      have := ih rem X Y h (by simpa using hl)
      simp only [List.length_cons, List.drop_succ_cons, List.cons_append, List.cons.injEq, true_and]
      exact this

/-- the bytes in front of two item lists that agree, cut to the length of the second, lie within it -/
theorem bytesI_take_prefix (a : Bytes) : ∀ (b : Bytes) (X Y : List Item),
    bytesI a ++ X = bytesI b ++ Y → a.take b.length <+: b := by
  induction a with
  | nil => intro b X Y _; simp
  | cons x a ih =>
    intro b X Y h
    cases b with
    | nil => simp
    | cons y b =>
      simp only [bytesI, List.map_cons, List.cons_append, List.cons.injEq, Item.byte.injEq] at h
      obtain ⟨rfl, h⟩ := h
      simp only [List.length_cons, List.take_succ_cons]
      exact List.cons_prefix_cons.2 ⟨rfl, ih b X Y h⟩

theorem drop_append_length {α : Type} (a X rem : List α) :
    (a ++ rem).drop (a ++ X).length = rem.drop X.length := by
  rw [List.length_append, ← List.drop_drop, List.drop_left]

/-- what holds of the elements of a list by position holds of each of them -/
theorem forall_mem_of_getElem? {α : Type} {l : List α} {n : Nat} {P : α → Prop}
    (hlen : l.length = n) (h : ∀ i, i < n → ∃ e, l[i]? = some e ∧ P e) : ∀ e ∈ l, P e := by
  intro e he
  obtain ⟨i, hi, rfl⟩ := List.mem_iff_getElem.1 he
  obtain ⟨e', he', hp⟩ := h i (hlen ▸ hi)
  rw [List.getElem?_eq_getElem hi] at he'
  cases he'
  exact hp

/-! ## `str::trim` and UTF-8 validity on ASCII bytes -/

/-- byte (in)equalities via `toNat` + `omega` -/
macro "u8_omega" : tactic =>
  `(tactic| (simp only [UInt8.lt_iff_toNat_lt, UInt8.le_iff_toNat_le, ← UInt8.toNat_inj, ne_eq,
      Bool.and_eq_true, Bool.or_eq_true, decide_eq_true_eq, beq_iff_eq, Bool.or_eq_false_iff,
      Bool.and_eq_false_iff, beq_eq_false_iff_ne, decide_eq_false_iff_not, UInt8.reduceToNat] at *
     <;> omega))

theorem wsPrefixLen_ascii (b : UInt8) (rest : Bytes) (h1 : b < 0x80)
    (h2 : ((9 ≤ b && b ≤ 13) || b == 32) = false) : wsPrefixLen (b :: rest) = 0 := by
  unfold wsPrefixLen
  simp only [h2, Bool.false_eq_true, if_false]
  split <;> first | rfl | (exfalso; revert h1; decide)

/-- a three-byte White_Space code point ends in a byte `≥ 0x80` -/
theorem wsPrefixLen3_ne (b : UInt8) (h1 : b < 0x80) (c1 c2 : UInt8) : wsPrefixLen [c1, c2, b] ≠ 3 := by
  simp only [wsPrefixLen]
  split
  · simp                    -- a one-byte White_Space: 1
  · split
    · split <;> simp        -- C2 ‥: 2 or 0
    · simp_all              -- E1 9A 80: `b = 0x80`
    · simp_all; u8_omega    -- E2 80 `b`: 3 only if `0x80 ≤ b`
    · simp_all              -- E2 81 9F
    · simp_all              -- E3 80 80
    · simp                  -- anything else: 0

theorem wsSuffixLen_ascii (b : UInt8) (rest : Bytes) (h1 : b < 0x80)
    (h2 : ((9 ≤ b && b ≤ 13) || b == 32) = false) : wsSuffixLen (b :: rest) = 0 := by
  unfold wsSuffixLen
  simp only [h2, Bool.false_eq_true, if_false]
  split
  · have : (b == 0x85 || b == 0xA0) = false := by u8_omega
    simp [this]
  · simp [wsPrefixLen3_ne b h1]
  · rfl

theorem validUtf8_ascii (bs : Bytes) (h : ∀ b ∈ bs, b < 0x80) : validUtf8 bs = true := by
  induction bs with
  | nil => rfl
  | cons b bs ih =>
    have hb := h b (by simp)
    rw [validUtf8.eq_def]
    simp only [hb, if_true]
    exact ih (fun x hx => h x (by simp [hx]))

theorem trimWsStart_ascii (f : Nat) (b : UInt8) (rest : Bytes) (h1 : b < 0x80)
    (h2 : ((9 ≤ b && b ≤ 13) || b == 32) = false) : trimWsStart f (b :: rest) = b :: rest := by
  cases f with
  | zero => rfl
  | succ f => simp [trimWsStart, wsPrefixLen_ascii b rest h1 h2]

theorem trimWsEndRev_ascii (f : Nat) (b : UInt8) (rest : Bytes) (h1 : b < 0x80)
    (h2 : ((9 ≤ b && b ≤ 13) || b == 32) = false) : trimWsEndRev f (b :: rest) = b :: rest := by
  cases f with
  | zero => rfl
  | succ f => simp [trimWsEndRev, wsSuffixLen_ascii b rest h1 h2]

/-- a non-empty word of ASCII bytes that are not white space is its own `str::trim` -/
theorem strTrim_word (bs : Bytes) (hne : bs ≠ [])
    (h : ∀ b ∈ bs, b < 0x80 ∧ ((9 ≤ b && b ≤ 13) || b == 32) = false) : strTrim bs = bs := by
  unfold strTrim
  obtain ⟨b, rest, rfl⟩ := List.exists_cons_of_ne_nil hne
  have hb := h b (by simp)
  simp only [trimWsStart_ascii _ b rest hb.1 hb.2]
  have hne' : (b :: rest).reverse ≠ [] := by simp
  obtain ⟨l, rrest, hl⟩ := List.exists_cons_of_ne_nil hne'
  have hlh := h l (List.mem_reverse.mp (by rw [hl]; simp))
  rw [hl, trimWsEndRev_ascii _ l rrest hlh.1 hlh.2, ← hl, List.reverse_reverse]

end Atto
