/-
  Atto/Lemmas/RqLex.lean — small list facts used by the request-side proofs: splitting a byte
  string at the first occurrence of a separator, the byte values of the string constants of the
  writer, quantification over all 256 byte values.
-/
import Atto.Std.HeaderMap
namespace Atto

theorem rq_all_u8 (P : UInt8 → Prop) (h : ∀ n, n < 256 → P (UInt8.ofNat n)) : ∀ b, P b := by
  intro b
  have := h b.toNat b.toNat_lt
  simpa using this

theorem rq_ne_of_notMem {c : UInt8} {l : Bytes} (h : c ∉ l) : ∀ a ∈ l, (a != c) = true :=
  fun a ha => by simpa using fun e : a = c => h (e ▸ ha)

theorem rq_takeWhile_ne (c : UInt8) (l r : Bytes) (h : c ∉ l) :
    (l ++ c :: r).takeWhile (· != c) = l := by
  simp [List.takeWhile_append_of_pos (rq_ne_of_notMem h)]

theorem rq_dropWhile_ne (c : UInt8) (l r : Bytes) (h : c ∉ l) :
    (l ++ c :: r).dropWhile (· != c) = c :: r := by
  simp [List.dropWhile_append_of_pos (rq_ne_of_notMem h)]

theorem rq_takeWhile_ne_all (c : UInt8) (l : Bytes) (h : c ∉ l) : l.takeWhile (· != c) = l := by
  simpa using List.takeWhile_append_of_pos (l₂ := []) (rq_ne_of_notMem h)

theorem rq_dropWhile_ne_all (c : UInt8) (l : Bytes) (h : c ∉ l) : l.dropWhile (· != c) = [] := by
  simpa using List.dropWhile_append_of_pos (l₂ := []) (rq_ne_of_notMem h)

/-! ### the writer's string constants as bytes -/

theorem rq_str_http11crlf : str " HTTP/1.1\r\n" = 32 :: str "HTTP/1.1" ++ [13, 10] := by decide +kernel
theorem rq_str_http11 : str "HTTP/1.1" = [72, 84, 84, 80, 47, 49, 46, 49] := by decide +kernel
theorem rq_str_colonsp : str ": " = [58, 32] := by decide +kernel
theorem rq_str_last : str "0\r\n\r\n" = [48, 13, 10, 13, 10] := by decide +kernel
theorem rq_str_crlf : str "\r\n" = [13, 10] := by decide +kernel
theorem rq_str_css : str "://" = [58, 47, 47] := by decide +kernel
theorem rq_str_chunked : str "chunked" = [99, 104, 117, 110, 107, 101, 100] := by decide +kernel
theorem rq_str_close : str "close" = [99, 108, 111, 115, 101] := by decide +kernel
theorem rq_str_basic : str "Basic " = [66, 97, 115, 105, 99, 32] := by decide +kernel
theorem rq_str_connect : str "CONNECT " = [67, 79, 78, 78, 69, 67, 84, 32] := by decide +kernel
theorem rq_str_http : str "http" = [104, 116, 116, 112] := by decide +kernel
theorem rq_str_https : str "https" = [104, 116, 116, 112, 115] := by decide +kernel

end Atto
