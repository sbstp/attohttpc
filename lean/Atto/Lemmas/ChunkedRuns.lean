/-
  Atto/Lemmas/ChunkedRuns.lean — whole runs of `read` on a chunked body behind the BufReader model,
  from the one-step facts of ChunkedFlat and ChunkedAny about the decoder on the flat stream:
  * a step theorem (`Tracks`) about the flat decoder is one about the body (`chunked_step`); with it
    a frame that is cut (`chunked_truncated_ev`: `step_trunc` along the run);
  * ANY stream: the run of a body as `parse_response` leaves it is the run of the flat decoder
    (`reads_chunked_runG`), on which nothing is fabricated (`chunked_any_sublist_ev`: `read_pot`), a
    failure is latched (`chunked_any_latched_ev`: `runG_latched_inv`) and a clean end comes only
    behind the terminator (`chunked_any_clean_end_ev`: `read_clean`).
-/
import Atto.Lemmas.Tracks
import Atto.Lemmas.ChunkedAny
import Atto.Lemmas.NoPanic
namespace Atto

/-- a chunked body over a healthy BufReader whose decoder, seen on the flat stream, satisfies `I` -/
def ChBody (I : Chunked (List Item) → Bytes → Prop) (b : Body) (rem : Bytes) : Prop :=
  ∃ c, b = .chunked c ∧ c.inner.Ok ∧ I (c.mapInner BufR.flat) rem

/-- a step theorem about the decoder on the flat stream is one about the body -/
theorem chunked_step {I : Chunked (List Item) → Bytes → Prop} {Q : Nat → Bytes → Ev → Prop}
    (m : Nat) (h : Tracks (flatStep m) Ev.bytes (fun _ _ => True) I Q) : ReadTracks m (ChBody I) Q := by
  rintro b rem n ⟨c, rfl, hok, hi⟩ _
  obtain ⟨h1, h2, h3⟩ := Chunked.read_sim bufSim c m n hok
  obtain ⟨hq, rem', hi', hr⟩ := h _ rem n hi trivial
  simp only [readStep, chunked_read_eq]
  rw [h1]
  exact ⟨hq, rem', ⟨_, rfl, h3, by rw [h2]; exact hi'⟩, hr⟩

/-- … and the same while payload is left -/
theorem chunked_step_while {I : Chunked (List Item) → Bytes → Prop} {Q : Nat → Bytes → Ev → Prop}
    (m : Nat) (h : TracksWhile (flatStep m) Ev.bytes (fun _ _ => True) I Q) :
    TracksWhile (readStep m) Ev.bytes (fun _ _ => True) (ChBody I) Q := by
  rintro b rem n ⟨c, rfl, hok, hi⟩ hrem _
  obtain ⟨h1, h2, h3⟩ := Chunked.read_sim bufSim c m n hok
  obtain ⟨hq, rem', hi', hr⟩ := h _ rem n hi hrem trivial
  simp only [readStep, chunked_read_eq]
  rw [h1]
  exact ⟨hq, rem', ⟨_, rfl, h3, by rw [h2]; exact hi'⟩, hr⟩

/-! ## A cut frame -/

/-- a read on a cut frame does not panic and never reports a clean end -/
def QChCut (n : Nat) (_ : Bytes) (e : Ev) : Prop := e ≠ .panic ∧ (0 < n → e ≠ .ok [])

theorem chunked_cut_step (tail : List Item) (hd : Dead tail) (m : Nat) (hm : 0 < m) :
    ReadTracks m (ChBody fun c P => TRep tail c P ∨ c.failed = true) QChCut := by
  refine chunked_step m fun c P n h _ => ?_
  simp only [flatStep]
  rcases h with hrep | hf
  · rcases step_trunc tail hd c P m n hm hrep with ⟨out, P', h1, rfl, hne, hrep'⟩ | ⟨hb, hfl⟩
    · rw [h1]
      exact ⟨⟨Ev.noConfusion, fun hn h => hne hn (by cases h; rfl)⟩, P', .inl hrep', rfl⟩
    · rcases hb with ⟨e, he⟩ | he <;> rw [he] <;>
        exact ⟨⟨Ev.noConfusion, fun _ => Ev.noConfusion⟩, P, .inr hfl, rfl⟩
  · rw [read_of_fillBuf_err _ _ _ _ _ _ (fillBuf_failed flatSrc c m hf)]
    exact ⟨⟨Ev.noConfusion, fun _ => Ev.noConfusion⟩, P, .inr hf, rfl⟩

/-! ## Any stream: the reads of a body as `parse_response` leaves it are the flat decoder's -/

/-- what a run hands out is, in order, among what its first state could hand out, if every step
    takes its bytes out of what the state could hand out -/
theorem runG_sublist {σ ι ε : Type} {step : σ → ι → ε × σ} {taken : ε → Bytes} {Inv : σ → Prop}
    {pot : σ → Bytes} (hinv : ∀ s op, Inv s → Inv (step s op).2)
    (h : ∀ s op, Inv s → (taken (step s op).1 ++ pot (step s op).2).Sublist (pot s)) :
    ∀ (ops : List ι) (s : σ), Inv s → ∀ i, (((runG step ops s).take i).flatMap taken).Sublist (pot s)
  | [], _, _, _ => by simp [runG]
  | _ :: _, _, _, 0 => by simp
  | op :: ops, s, hs, i + 1 => by
    rw [runG, List.take_succ_cons, List.flatMap_cons]
    exact ((runG_sublist hinv h ops _ (hinv s op hs) i).append_left _).trans (h s op hs)

theorem Ev.bytes_ofRR (r : RR Bytes) : (Ev.ofRR r).bytes = r.got := by cases r <;> rfl

section events
variable (r1 : BufR) (hok : r1.Ok) (maxBuf : Nat) (ns : List Nat)
include hok

theorem reads_chunked_runG :
    (reads maxBuf ns (Body.new .chunked r1)).1 = runG (flatStep maxBuf) ns (fresh r1.flat) :=
  (reads_chunked_flat r1 hok maxBuf ns).trans (readsC_eq_runG maxBuf ns _)

theorem chunked_any_sublist_ev :
    let evs := (reads maxBuf ns (Body.new .chunked r1)).1
    (∀ i, (deliveredEv (evs.take i)).Sublist (bytesOf r1.flat)) ∧ (∀ e ∈ evs, e ≠ .panic) := by
  refine ⟨fun i => ?_, (reads_no_panic maxBuf ns _ (Body.new_ok .chunked r1 hok)).1⟩
  rw [reads_chunked_runG r1 hok, deliveredEv_eq_flatMap, ← pot_fresh]
  exact runG_sublist (Inv := fun c => c.consumed ≤ c.buffer.length)
    (fun c n hc => (read_flat_ne_panic c maxBuf n hc).2)
    (fun c n hc => by rw [flatStep, Ev.bytes_ofRR]; exact read_pot c maxBuf n hc) ns _
    (Nat.le_refl _) i

/-- once a read did not return `Ok`, none does: the decoder has latched the failure -/
theorem chunked_any_latched_ev :
    let evs := (reads maxBuf ns (Body.new .chunked r1)).1
    ∀ i j, i ≤ j → j < evs.length → (∀ bs, evs[i]? ≠ some (.ok bs)) →
      (∀ bs, evs[j]? ≠ some (.ok bs)) := by
  intro evs i j hij _ hi bs hb
  rw [show evs = _ from reads_chunked_runG r1 hok maxBuf ns] at hi hb
  exact runG_latched_inv (step := flatStep maxBuf) (good := fun e => ∃ bs, e = Ev.ok bs)
    (Inv := fun c => c.consumed ≤ c.buffer.length) (Stuck := fun c => c.failed = true)
    (fun c n hc => (read_flat_ne_panic c maxBuf n hc).2)
    (fun c n hc hng => read_flat_not_ok_failed c maxBuf n hc fun bs h =>
      hng ⟨bs, by rw [flatStep, h]; rfl⟩)
    (fun c n _ hs => by
      rw [flatStep, read_of_fillBuf_err _ _ _ _ _ _ (fillBuf_failed flatSrc c maxBuf hs)]
      exact ⟨(fun ⟨bs, h⟩ => nomatch h), hs⟩)
    ns _ i j (Nat.le_refl _) hij (fun e he ⟨bs, hb⟩ => hi bs (hb ▸ he)) _ hb ⟨bs, rfl⟩

theorem chunked_any_clean_end_ev (hmb : 0 < maxBuf) :
    let evs := (reads maxBuf ns (Body.new .chunked r1)).1
    ∀ i (hi : i < ns.length), 0 < ns[i] → evs[i]? = some (.ok []) → TermT r1.flat := by
  intro evs i hi hn hev
  obtain ⟨e, he, hq⟩ := runG_inv_get (step := flatStep maxBuf)
    (Inv := fun c => c.consumed ≤ c.buffer.length ∧ KInv r1.flat c)
    (Q := fun n e => 0 < n → e = .ok [] → TermT r1.flat)
    (fun c n ⟨hc, hk⟩ => by
      obtain ⟨k1, k2⟩ := read_clean r1.flat c maxBuf n hmb hc hk
      refine ⟨fun hn he => k2 hn ?_, (read_flat_ne_panic c maxBuf n hc).2, k1⟩
      rw [flatStep] at he
      cases hr : (c.read flatSrc maxBuf n).1 <;> rw [hr] at he <;> cases he
      rfl)
    ns _ ⟨Nat.le_refl _, KInv.fresh r1.flat⟩ i hi
  rw [← reads_chunked_runG r1 hok] at he
  exact hq hn (Option.some.inj (he.symm.trans hev))

end events

section cut
variable (r1 : BufR) (hok : r1.Ok) (maxBuf : Nat) (hmb : 0 < maxBuf) (ns : List Nat)
include hok hmb

theorem chunked_truncated_ev (cs : List ChunkS) (hcs : ∀ c ∈ cs, c.WF Consts.chunkSizeLineLimit)
    (part : Bytes) (tailItems : List Item)
    (hp : (∃ c : ChunkS, c.WF Consts.chunkSizeLineLimit ∧ part.length < c.enc.length ∧ part <+: c.enc) ∨
          (∃ l : LastS, l.WF Consts.chunkSizeLineLimit ∧ part.length < l.enc.length ∧ part <+: l.enc))
    (ht : tailItems = [] ∨ (∃ k r, k ≠ 0 ∧ tailItems = .err k :: r) ∨
          (∃ r, tailItems = .pause :: r))
    (hfl : r1.flat = bytesI (encChunks cs ++ part) ++ tailItems) :
    let evs := (reads maxBuf ns (.chunked { inner := r1 })).1
    (∀ i (hi : i < ns.length), 0 < ns[i] → evs[i]? ≠ some (.ok [])) ∧
    (∀ e ∈ evs, e ≠ .panic) ∧
    (∃ d : Bytes,
      ((∃ c : ChunkS, c.WF Consts.chunkSizeLineLimit ∧ part.length < c.enc.length ∧ part <+: c.enc ∧
          d = c.data) ∨
       (d = [] ∧ ∃ l : LastS, l.WF Consts.chunkSizeLineLimit ∧ part.length < l.enc.length ∧
          part <+: l.enc)) ∧
      deliveredEv evs <+: payloadOf cs ++ d) ∧
    (∀ i j, i ≤ j → j < evs.length → (∀ bs, evs[i]? ≠ some (.ok bs)) →
      (∀ bs, evs[j]? ≠ some (.ok bs))) := by
  intro evs
  -- the data `d` that may still come, and the invariant of the run
  obtain ⟨d, hd, hinv⟩ := trep_fresh cs hcs part tailItems hp
  rw [← hfl] at hinv
  obtain ⟨h1, h2⟩ := (chunked_cut_step tailItems ht maxBuf hmb).get_reads ns
    (b := .chunked { inner := r1 }) ⟨_, rfl, hok, .inl hinv⟩
  refine ⟨fun i hi hn hev => ?_, (reads_no_panic maxBuf ns _ (Body.new_ok .chunked r1 hok)).1,
    ⟨d, hd, h1⟩,
    chunked_any_latched_ev r1 hok maxBuf ns⟩
  obtain ⟨e, he, _, hq⟩ := h2 i hi
  exact hq.2 hn (Option.some.inj (he.symm.trans hev))

end cut

end Atto
