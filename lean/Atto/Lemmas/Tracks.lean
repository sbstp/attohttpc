/-
  Atto/Lemmas/Tracks.lean — runs of calls on a reader that hands out a payload, whatever the reader
  (`BodyReader` through `read` only or through the `BufRead` calls as well, the chunked decoder on the
  flat stream) and whatever is proved about it:
  * `Tracks`: an invariant `Inv s rem` (`rem` = what is still to be handed out) kept by every step,
    each step taking its bytes from the front of `rem` and obeying a contract `Q`; `Tracks.get` reads
    off what the `i`-th event of a run then satisfies; `TracksWhile` is the same while payload is left;
  * `Shape`: the events of a constant schedule of reads, non-empty pieces of the payload and then one
    event `x` (`shape_of_steps`), on which the `io::copy` loops are closed formulas.
-/
import Atto.Lemmas.BodyReads
namespace Atto

section generic
variable {σ ι ε : Type}

/-- the events of the calls `ops` issued one after the other, whatever the results -/
def runG (step : σ → ι → ε × σ) : List ι → σ → List ε
  | [], _ => []
  | op :: ops, s => (step s op).1 :: runG step ops (step s op).2

/-- every call of the run satisfies `A` in the state it is issued in -/
def runA (A : σ → ι → Prop) (step : σ → ι → ε × σ) : List ι → σ → Prop
  | [], _ => True
  | op :: ops, s => A s op ∧ runA A step ops (step s op).2

theorem runA_of_forall {A : σ → ι → Prop} (h : ∀ s op, A s op) (step : σ → ι → ε × σ)
    (ops : List ι) : ∀ s, runA A step ops s := by
  induction ops with
  | nil => intro _; trivial
  | cons op ops ih => intro s; exact ⟨h s op, ih _⟩

/-- an invariant kept by every step, each step obeying `Q`: by position, every event obeys `Q` -/
theorem runG_inv_get {step : σ → ι → ε × σ} {Inv : σ → Prop} {Q : ι → ε → Prop}
    (h : ∀ s op, Inv s → Q op (step s op).1 ∧ Inv (step s op).2) :
    ∀ (ops : List ι) (s : σ), Inv s → ∀ i (hi : i < ops.length),
      ∃ e, (runG step ops s)[i]? = some e ∧ Q ops[i] e
  | op :: _, s, hs, 0, _ => ⟨_, rfl, (h s op hs).1⟩
  | op :: ops, s, hs, i + 1, hi =>
    runG_inv_get h ops _ (h s op hs).2 i (Nat.lt_of_succ_lt_succ hi)

/-- from a stuck state no step of a run is good (along an invariant `Inv` of the run) -/
theorem runG_stuck_inv {step : σ → ι → ε × σ} {good : ε → Prop}
    {Inv Stuck : σ → Prop} (hinv : ∀ s op, Inv s → Inv (step s op).2)
    (h : ∀ s op, Inv s → Stuck s → ¬ good (step s op).1 ∧ Stuck (step s op).2) :
    ∀ (ops : List ι) (s : σ), Inv s → Stuck s → ∀ e ∈ runG step ops s, ¬ good e
  | [], _, _, _, _, he => nomatch he
  | op :: ops, s, hi, hs, e, he => by
    rcases List.mem_cons.1 he with rfl | he
    · exact (h s op hi hs).1
    · exact runG_stuck_inv hinv h ops _ (hinv s op hi) (h s op hi hs).2 e he

/-- a run latches: a step that is not good leaves a stuck state, so no later step is good -/
theorem runG_latched_inv {step : σ → ι → ε × σ} {good : ε → Prop}
    {Inv Stuck : σ → Prop} (hinv : ∀ s op, Inv s → Inv (step s op).2)
    (h1 : ∀ s op, Inv s → ¬ good (step s op).1 → Stuck (step s op).2)
    (h2 : ∀ s op, Inv s → Stuck s → ¬ good (step s op).1 ∧ Stuck (step s op).2) :
    ∀ (ops : List ι) (s : σ) (i j : Nat), Inv s → i ≤ j →
      (∀ e, (runG step ops s)[i]? = some e → ¬ good e) →
      ∀ e, (runG step ops s)[j]? = some e → ¬ good e
  | [], _, _, _, _, _, _, _, he => nomatch he
  | _ :: _, _, 0, 0, _, _, hi, e, he => hi e he
  | op :: ops, s, 0, _ + 1, hs, _, hi, e, he =>
    runG_stuck_inv hinv h2 ops _ (hinv s op hs) (h1 s op hs (hi _ rfl)) e (List.mem_of_getElem? he)
  | op :: ops, s, i + 1, j + 1, hs, hij, hi, e, he =>
    runG_latched_inv hinv h1 h2 ops _ i j (hinv s op hs) (Nat.le_of_succ_le_succ hij) hi e he

/-- `Inv s rem` is kept by every admissible step, which obeys `Q` and hands out the front of `rem` -/
def Tracks (step : σ → ι → ε × σ) (taken : ε → Bytes) (A : σ → ι → Prop)
    (Inv : σ → Bytes → Prop) (Q : ι → Bytes → ε → Prop) : Prop :=
  ∀ s rem op, Inv s rem → A s op →
    Q op rem (step s op).1 ∧ ∃ rem', Inv (step s op).2 rem' ∧ rem = taken (step s op).1 ++ rem'

/-- by position: the `i`-th event of a run obeys `Q` with the payload left at its moment -/
theorem Tracks.get {step : σ → ι → ε × σ} {taken : ε → Bytes} {A : σ → ι → Prop}
    {Inv : σ → Bytes → Prop} {Q : ι → Bytes → ε → Prop} (h : Tracks step taken A Inv Q) :
    ∀ (ops : List ι) (s : σ) (rem : Bytes), Inv s rem → runA A step ops s →
    (runG step ops s).flatMap taken <+: rem ∧
    ∀ i (hi : i < ops.length), ∃ e, (runG step ops s)[i]? = some e ∧
      ((runG step ops s).take i).flatMap taken <+: rem ∧
      Q ops[i] (rem.drop (((runG step ops s).take i).flatMap taken).length) e
  | [], _, _, _, _ => ⟨List.nil_prefix, fun _ hi => nomatch hi⟩
  | op :: ops, s, rem, hinv, ha => by
    obtain ⟨hq, rem', hinv', hr⟩ := h s rem op hinv ha.1
    obtain ⟨h1, h2⟩ := h.get ops _ rem' hinv' ha.2
    subst hr
    refine ⟨(List.prefix_append_right_inj _).2 h1, fun i hi => ?_⟩
    cases i with
    | zero => exact ⟨_, rfl, List.nil_prefix, hq⟩
    | succ i =>
      obtain ⟨e, he1, he2, he3⟩ := h2 i (Nat.lt_of_succ_lt_succ hi)
      rw [← drop_append_length (taken (step s op).1)] at he3
      exact ⟨e, he1, (List.prefix_append_right_inj _).2 he2, he3⟩

theorem Tracks.mono {step : σ → ι → ε × σ} {taken : ε → Bytes} {A : σ → ι → Prop}
    {Inv : σ → Bytes → Prop} {Q Q' : ι → Bytes → ε → Prop} (h : Tracks step taken A Inv Q)
    (hQ : ∀ op rem e, Q op rem e → Q' op rem e) : Tracks step taken A Inv Q' :=
  fun s rem op hi ha => ⟨hQ _ _ _ (h s rem op hi ha).1, (h s rem op hi ha).2⟩

/-- like `Tracks`, but only while some of the payload is left: nothing is said about the calls that
    follow its exhaustion (what has arrived can be read, whatever comes next) -/
def TracksWhile (step : σ → ι → ε × σ) (taken : ε → Bytes) (A : σ → ι → Prop)
    (Inv : σ → Bytes → Prop) (Q : ι → Bytes → ε → Prop) : Prop :=
  ∀ s rem op, Inv s rem → rem ≠ [] → A s op →
    Q op rem (step s op).1 ∧ ∃ rem', Inv (step s op).2 rem' ∧ rem = taken (step s op).1 ++ rem'

/-- by position: an event issued before the payload was exhausted obeys `Q` -/
theorem TracksWhile.get {step : σ → ι → ε × σ} {taken : ε → Bytes} {A : σ → ι → Prop}
    {Inv : σ → Bytes → Prop} {Q : ι → Bytes → ε → Prop} (h : TracksWhile step taken A Inv Q) :
    ∀ (ops : List ι) (s : σ) (rem : Bytes), Inv s rem → runA A step ops s →
    ∀ i (hi : i < ops.length), (((runG step ops s).take i).flatMap taken).length < rem.length →
      ∃ e, (runG step ops s)[i]? = some e ∧ ((runG step ops s).take i).flatMap taken <+: rem ∧
        Q ops[i] (rem.drop (((runG step ops s).take i).flatMap taken).length) e
  | [], _, _, _, _, _, hi, _ => nomatch hi
  | op :: ops, s, rem, hinv, ha, i, hi, hlt => by
    have hrem : rem ≠ [] := fun h0 => by rw [h0] at hlt; exact Nat.not_lt_zero _ hlt
    obtain ⟨hq, rem', hinv', hr⟩ := h s rem op hinv hrem ha.1
    cases i with
    | zero => exact ⟨_, rfl, List.nil_prefix, hq⟩
    | succ i =>
      subst hr
      have hlt' : (taken (step s op).1 ++ ((runG step ops (step s op).2).take i).flatMap taken).length
          < (taken (step s op).1 ++ rem').length := hlt
      obtain ⟨e, he1, he2, he3⟩ := h.get ops _ rem' hinv' ha.2 i (Nat.lt_of_succ_lt_succ hi)
        (by simp only [List.length_append] at hlt'; omega)
      rw [← drop_append_length (taken (step s op).1)] at he3
      exact ⟨e, he1, (List.prefix_append_right_inj _).2 he2, he3⟩

end generic

/-! ## `reads`: a caller that only issues `read` -/

/-- one `read` as the caller sees it -/
def readStep (m : Nat) (b : Body) (n : Nat) : Ev × Body := (Ev.ofRR (b.read m n).1, (b.read m n).2)

theorem reads_eq_runG (m : Nat) (ns : List Nat) (b : Body) :
    (reads m ns b).1 = runG (readStep m) ns b := by
  induction ns generalizing b with
  | nil => rfl
  | cons n ns ih => rw [reads_cons, ih]; rfl

theorem deliveredEv_eq_flatMap (evs : List Ev) : deliveredEv evs = evs.flatMap Ev.bytes := by
  induction evs with
  | nil => rfl
  | cons e es ih => rw [deliveredEv_cons, ih, List.flatMap_cons]

/-- a step theorem about `read` alone: `Inv b rem → Q n rem (the event) ∧ ∃ rem', Inv b' rem' ∧ …` -/
abbrev ReadTracks (m : Nat) (Inv : Body → Bytes → Prop) (Q : Nat → Bytes → Ev → Prop) : Prop :=
  Tracks (readStep m) Ev.bytes (fun _ _ => True) Inv Q

/-- a `ReadTracks` theorem at one read -/
theorem ReadTracks.step {m : Nat} {Inv : Body → Bytes → Prop} {Q : Nat → Bytes → Ev → Prop}
    (h : ReadTracks m Inv Q) {b : Body} {rem : Bytes} (n : Nat) (hi : Inv b rem) :
    Q n rem (Ev.ofRR (b.read m n).1) ∧
    ∃ rem', Inv (b.read m n).2 rem' ∧ rem = (Ev.ofRR (b.read m n).1).bytes ++ rem' :=
  h b rem n hi trivial

/-- `Tracks.get` for `read` events, in terms of `deliveredEv` -/
theorem ReadTracks.get_reads {m : Nat} {Inv : Body → Bytes → Prop} {Q : Nat → Bytes → Ev → Prop}
    (h : ReadTracks m Inv Q) (ns : List Nat) {b : Body} {rem : Bytes} (hi : Inv b rem) :
    deliveredEv (reads m ns b).1 <+: rem ∧
    ∀ i (hi : i < ns.length), ∃ e, (reads m ns b).1[i]? = some e ∧
      deliveredEv ((reads m ns b).1.take i) <+: rem ∧
      Q ns[i] (rem.drop (deliveredEv ((reads m ns b).1.take i)).length) e := by
  simpa only [deliveredEv_eq_flatMap, reads_eq_runG] using
    Tracks.get h ns b rem hi (runA_of_forall (fun _ _ => trivial) _ ns b)

/-- `TracksWhile.get` for `read` events, in terms of `deliveredEv` -/
theorem TracksWhile.get_reads {m : Nat} {Inv : Body → Bytes → Prop} {Q : Nat → Bytes → Ev → Prop}
    (h : TracksWhile (readStep m) Ev.bytes (fun _ _ => True) Inv Q) (ns : List Nat) {b : Body}
    {rem : Bytes} (hi : Inv b rem) :
    ∀ i (hi : i < ns.length), (deliveredEv ((reads m ns b).1.take i)).length < rem.length →
      ∃ e, (reads m ns b).1[i]? = some e ∧ deliveredEv ((reads m ns b).1.take i) <+: rem ∧
        Q ns[i] (rem.drop (deliveredEv ((reads m ns b).1.take i)).length) e := by
  simpa only [deliveredEv_eq_flatMap, reads_eq_runG] using
    h.get ns b rem hi (runA_of_forall (fun _ _ => trivial) _ ns b)

/-! ## The chunked decoder on the flat stream -/

/-- one `read` of the flat decoder as the caller sees it -/
def flatStep (m : Nat) (c : Chunked (List Item)) (n : Nat) : Ev × Chunked (List Item) :=
  (Ev.ofRR (c.read flatSrc m n).1, (c.read flatSrc m n).2)

theorem readsC_eq_runG (m : Nat) : ∀ (ns : List Nat) (c : Chunked (List Item)),
    (readsC flatSrc m ns c).1.map Ev.ofRR = runG (flatStep m) ns c
  | [], _ => rfl
  | n :: ns, c => by rw [readsC_cons, List.map_cons, readsC_eq_runG m ns]; rfl

/-! ## A constant schedule: pieces of `P`, then the event `x` -/

/-- an event after which `io::copy` / `read_to_end` go on: a non-empty piece, or `Interrupted` -/
def Ev.Goes (e : Ev) : Prop := (∃ bs, e = .ok bs ∧ bs ≠ []) ∨ e = .err (.io 0)

/-- the results of a run of reads start with events after which the copy goes on, delivering `P`,
    followed by `x` -/
def Shape (P : Bytes) (x : Ev) (evs : List Ev) : Prop :=
  ∃ pre es, (∀ e ∈ pre, e.Goes) ∧ deliveredEv pre = P ∧ evs = pre ++ x :: es

theorem Shape.here (x : Ev) (es : List Ev) : Shape [] x (x :: es) := ⟨[], es, nofun, rfl, rfl⟩

theorem Shape.cons {P : Bytes} {x : Ev} {evs : List Ev} {p : Bytes} (hp : p ≠ [])
    (h : Shape P x evs) : Shape (p ++ P) x (.ok p :: evs) := by
  obtain ⟨pre, es, h1, rfl, rfl⟩ := h
  exact ⟨.ok p :: pre, es, List.forall_mem_cons.2 ⟨.inl ⟨p, rfl, hp⟩, h1⟩, rfl, rfl⟩

theorem Shape.cons_intr {P : Bytes} {x : Ev} {evs : List Ev} (h : Shape P x evs) :
    Shape P x (.err (.io 0) :: evs) := by
  obtain ⟨pre, es, h1, rfl, rfl⟩ := h
  exact ⟨.err (.io 0) :: pre, es, List.forall_mem_cons.2 ⟨.inr rfl, h1⟩, rfl, rfl⟩

/-- `fuel` reads of size `sz` from a state that holds a payload shorter than `fuel`: if a read returns
    a non-empty piece of the payload while some is left (`hstep`) and `x` once it is exhausted
    (`hend`), the results have that shape -/
theorem shape_of_steps {σ : Type} (step : σ → Nat → Ev × σ) (sz : Nat) (Inv : σ → Bytes → Prop)
    (x : Ev)
    (hstep : ∀ s rem, Inv s rem → rem ≠ [] → ∃ bs rem', (step s sz).1 = .ok bs ∧ bs ≠ [] ∧
      rem = bs ++ rem' ∧ Inv (step s sz).2 rem')
    (hend : ∀ s, Inv s [] → (step s sz).1 = x) :
    ∀ (fuel : Nat) (s : σ) (rem : Bytes), Inv s rem → rem.length < fuel →
      Shape rem x (runG step (List.replicate fuel sz) s)
  | 0, _, _, _, h => by omega
  | fuel + 1, s, rem, hi, hl => by
    rw [List.replicate_succ, runG]
    by_cases h0 : rem = []
    · subst h0
      rw [hend s hi]
      exact .here _ _
    · obtain ⟨bs, rem', h1, hb, rfl, hi'⟩ := hstep s rem hi h0
      have hpos := List.length_pos_iff.mpr hb
      rw [h1]
      exact (shape_of_steps step sz Inv x hstep hend fuel _ rem' hi'
        (by simp only [List.length_append] at hl; omega)).cons hb

theorem ReadTracks.shape {m : Nat} {Inv : Body → Bytes → Prop} {Q : Nat → Bytes → Ev → Prop}
    (h : ReadTracks m Inv Q) (x : Ev) (sz : Nat)
    (hQ : ∀ rem e, Q sz rem e → (rem = [] → e = x) ∧ (rem ≠ [] → ∃ bs, e = .ok bs ∧ bs ≠ []))
    (fuel : Nat) {b : Body} {rem : Bytes} (hi : Inv b rem) (hf : rem.length < fuel) :
    Shape rem x (reads m (List.replicate fuel sz) b).1 := by
  rw [reads_eq_runG]
  refine shape_of_steps (readStep m) sz Inv x (fun b rem hi h0 => ?_)
    (fun b hi => (hQ _ _ (h.step sz hi).1).1 rfl) fuel b rem hi hf
  obtain ⟨hq, rem', hi', hr⟩ := h.step sz hi
  obtain ⟨bs, hb, hne⟩ := (hQ _ _ hq).2 h0
  rw [hb] at hr
  exact ⟨bs, rem', hb, hne, hr, hi'⟩

end Atto
