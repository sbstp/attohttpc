/-
  Atto/Lemmas/FlatPrims.lean — the two reading primitives on the flat item stream (Spec/Flat.lean)
  and `read_line` on top of them:
  * what a call consumed, on ANY stream (`specExact_char`, `specUntil_char`, `readLine_flat_char`, and
    their corollaries `…_suffix`, `…_ne_panic`, `…_ok`);
  * what a call does on given bytes followed by any `rest` (`specUntil_bytes`, `specUntil_run`,
    `readLine_line`, `readLine_endless`; for `read_exact`: `specExact_bytes`, `specExact_take` in
    Lemmas/BufReaderRefine.lean);
  * what each primitive does on a cut stream (`specExact_cut`, `specUntil_cut`).
-/
import Atto.Lemmas.BufReaderRefine
import Atto.Lemmas.ListFacts
namespace Atto

/-! ## Pieces of the stream -/

/-- the stream without its Interrupted errors (`err 0`), which std's `read_exact` and `read_until`
    retry without the caller noticing -/
def noIntr (is : List Item) : List Item := is.filter (fun x => x != Item.err 0)

@[simp] theorem noIntr_nil : noIntr [] = [] := rfl
@[simp] theorem noIntr_byte (b : UInt8) (is : List Item) :
    noIntr (.byte b :: is) = .byte b :: noIntr is := by
  simp [noIntr]
@[simp] theorem noIntr_intr (is : List Item) : noIntr (.err 0 :: is) = noIntr is := by
  simp [noIntr]
theorem noIntr_append (a b : List Item) : noIntr (a ++ b) = noIntr a ++ noIntr b := by
  simp [noIntr]
theorem noIntr_length_le (is : List Item) : (noIntr is).length ≤ is.length :=
  List.length_filter_le _ _

/-- a piece of the stream is as long as what is left of it without the Interrupted errors, plus
    their number -/
theorem noIntr_length (is : List Item) :
    is.length = (noIntr is).length + is.count (Item.err 0) := by
  rw [noIntr, List.count_eq_countP, List.countP_eq_length_filter,
    ← (List.filter_append_perm (fun x => x != Item.err 0) is).length_eq, List.length_append]
  congr 3
  funext x
  simp [bne]

/-- going from `is` to `is'` consumed exactly the bytes `bs`, plus Interrupted errors: no other
    error, no stall in between -/
def Adv (is is' : List Item) (bs : Bytes) : Prop :=
  ∃ head, is = head ++ is' ∧ noIntr head = bytesI bs

theorem Adv.refl (is : List Item) : Adv is is [] := ⟨[], rfl, rfl⟩

theorem Adv.trans {a b c : List Item} {x y : Bytes} (h1 : Adv a b x) (h2 : Adv b c y) :
    Adv a c (x ++ y) := by
  obtain ⟨p, rfl, hp⟩ := h1
  obtain ⟨q, rfl, hq⟩ := h2
  exact ⟨p ++ q, by simp, by rw [noIntr_append, hp, hq]; simp [bytesI]⟩

theorem Adv.suffix {is is' : List Item} {bs : Bytes} (h : Adv is is' bs) : is' <:+ is := by
  obtain ⟨p, rfl, _⟩ := h
  exact List.suffix_append _ _

theorem Adv.length_le {is is' : List Item} {bs : Bytes} (h : Adv is is' bs) :
    bs.length + is'.length ≤ is.length := by
  obtain ⟨p, rfl, hp⟩ := h
  have := noIntr_length_le p
  rw [hp, bytesI_length] at this
  rw [List.length_append]
  omega

/-- the bytes of a flat stream, in order (errors and stalls dropped) -/
def bytesOf : List Item → Bytes
  | [] => []
  | .byte b :: is => b :: bytesOf is
  | _ :: is => bytesOf is

theorem bytesOf_bytesI_append (bs : Bytes) (F : List Item) :
    bytesOf (bytesI bs ++ F) = bs ++ bytesOf F := by
  induction bs with
  | nil => rfl
  | cons b bs ih => simp [bytesI_cons, bytesOf, ih]

theorem bytesOf_bytesI (bs : Bytes) : bytesOf (bytesI bs) = bs := by
  have := bytesOf_bytesI_append bs []
  simpa [bytesOf] using this

theorem bytesOf_append (a b : List Item) : bytesOf (a ++ b) = bytesOf a ++ bytesOf b := by
  induction a with
  | nil => rfl
  | cons x a ih => cases x <;> simp [bytesOf, ih]

theorem bytesOf_noIntr (a : List Item) : bytesOf (noIntr a) = bytesOf a := by
  induction a with
  | nil => rfl
  | cons x a ih =>
    cases x with
    | byte b => simp [bytesOf, ih]
    | err k =>
      by_cases hk : k = 0
      · subst hk; simp [bytesOf, ih]
      · simp [noIntr, hk, bytesOf] at ih ⊢; exact ih
    | pause => simp [noIntr, bytesOf] at ih ⊢; exact ih

theorem bytesOf_length_le (a : List Item) : (bytesOf a).length ≤ a.length := by
  induction a with
  | nil => exact Nat.le_refl _
  | cons x a ih => cases x <;> simp only [bytesOf, List.length_cons] <;> omega

theorem bytesOf_length_le_noIntr (a : List Item) : (bytesOf a).length ≤ (noIntr a).length := by
  rw [← bytesOf_noIntr]
  exact bytesOf_length_le _

theorem suffix_bytesOf_sublist {a b : List Item} (h : a <:+ b) : (bytesOf a).Sublist (bytesOf b) := by
  obtain ⟨t, rfl⟩ := h
  rw [bytesOf_append]
  exact List.sublist_append_right _ _

theorem Adv.bytesOf_eq {is is' : List Item} {bs : Bytes} (h : Adv is is' bs) :
    bytesOf is = bs ++ bytesOf is' := by
  obtain ⟨p, rfl, hp⟩ := h
  rw [bytesOf_append, ← bytesOf_noIntr p, hp, bytesOf_bytesI]

theorem Adv.of_suffix_left {a b c : List Item} {x : Bytes} (h1 : b <:+ a) (h2 : Adv b c x) :
    (x ++ bytesOf c).Sublist (bytesOf a) := by
  rw [← h2.bytesOf_eq]
  exact suffix_bytesOf_sublist h1

/-! ## The primitives on any stream -/

theorem RR.map_ne_panic {f : α → β} {x : RR α} (h : x ≠ .panic) : x.map f ≠ .panic := by
  cases x <;> simp_all [RR.map]

theorem flatSrc_readExact (is : List Item) (n : Nat) : flatSrc.readExact is n = specExact n is := rfl
@[simp] theorem flatSrc_readUntil (is : List Item) (l : Nat) :
    flatSrc.readUntil is l = specUntil l is [] := rfl

/-- `read_exact(n)` on any stream. The piece `head` it consumed holds, Interrupted errors apart, at
    most `n` items (bytes, and possibly the one hard error it returns); it never panics; a success
    returns exactly `n` bytes, and they are all of `head` but Interrupted errors. -/
theorem specExact_char (n : Nat) (is : List Item) :
    ∃ head, is = head ++ (specExact n is).2 ∧ (noIntr head).length ≤ n ∧
      (specExact n is).1 ≠ .panic ∧
      ∀ bs, (specExact n is).1 = .ok bs → bs.length = n ∧ noIntr head = bytesI bs := by
  fun_induction specExact n is with
  | case1 is =>
    refine ⟨[], rfl, Nat.le_refl _, by simp, fun bs h => ?_⟩
    simp only [RR.ok.injEq] at h
    subst h
    exact ⟨rfl, rfl⟩
  | case2 => exact ⟨[], rfl, Nat.zero_le _, by simp, by simp⟩
  | case3 n b is p ih =>
    obtain ⟨head, e1, e2, e3, e4⟩ := ih
    refine ⟨.byte b :: head, by rw [List.cons_append, ← e1],
      by simp only [noIntr_byte, List.length_cons]; omega, ?_, fun bs h => ?_⟩
    · exact RR.map_ne_panic e3
    · cases hp : p.1 with
      | ok v =>
        simp only [hp, RR.map_ok, RR.ok.injEq] at h
        subst h
        obtain ⟨f1, f2⟩ := e4 v hp
        exact ⟨by simp [f1], by simp [f2, bytesI]⟩
      | err e => simp [hp] at h
      | blocked => simp [hp] at h
      | panic => simp [hp] at h
  | case4 n is ih =>
    obtain ⟨head, e1, e2, e3, e4⟩ := ih
    exact ⟨.err 0 :: head, by rw [List.cons_append, ← e1], by simpa using e2, e3,
      fun bs h => by simpa using e4 bs h⟩
  | case5 n k is hk =>
    exact ⟨[.err k], rfl, Nat.le_trans (noIntr_length_le _) (Nat.succ_le_succ (Nat.zero_le _)), by simp,
      by simp⟩
  | case6 => exact ⟨[], rfl, Nat.zero_le _, by simp, by simp⟩

theorem specExact_suffix (n : Nat) (is : List Item) : (specExact n is).2 <:+ is := by
  obtain ⟨head, e, _⟩ := specExact_char n is
  exact ⟨head, e.symm⟩

theorem specExact_ne_panic (n : Nat) (is : List Item) : (specExact n is).1 ≠ .panic := by
  obtain ⟨_, _, _, h, _⟩ := specExact_char n is
  exact h

theorem specExact_ok {n : Nat} {is : List Item} {bs : Bytes} (h : (specExact n is).1 = .ok bs) :
    bs.length = n ∧ Adv is (specExact n is).2 bs := by
  obtain ⟨head, e, _, _, h4⟩ := specExact_char n is
  exact ⟨(h4 bs h).1, head, e, (h4 bs h).2⟩

/-- `Take(l).read_until(LF)` on any stream. The piece `head` it consumed holds, Interrupted errors
    apart, at most `l` items; it never panics; a success appended to `acc` exactly the bytes of
    `head`, taking as many off the limit. -/
theorem specUntil_char (l : Nat) (is : List Item) (acc : Bytes) :
    ∃ head, is = head ++ (specUntil l is acc).2 ∧ (noIntr head).length ≤ l ∧
      (specUntil l is acc).1 ≠ .panic ∧
      ∀ bs l', (specUntil l is acc).1 = .ok (bs, l') →
        ∃ more, bs = acc ++ more ∧ more.length + l' = l ∧ noIntr head = bytesI more := by
  fun_induction specUntil l is acc with
  | case1 is acc =>
    refine ⟨[], rfl, Nat.le_refl _, by simp, fun bs l' h => ?_⟩
    simp only [RR.ok.injEq, Prod.mk.injEq] at h
    exact ⟨[], by simp [h.1], by simp [h.2], rfl⟩
  | case2 l acc =>
    refine ⟨[], rfl, Nat.zero_le _, by simp, fun bs l' h => ?_⟩
    simp only [RR.ok.injEq, Prod.mk.injEq] at h
    exact ⟨[], by simp [h.1], by simp [h.2], rfl⟩
  | case3 l is acc =>
    refine ⟨[.byte 10], rfl, by simp, by simp, fun bs l' h => ?_⟩
    simp only [RR.ok.injEq, Prod.mk.injEq] at h
    exact ⟨[10], by simp [h.1], by have := h.2; simp only [List.length_singleton]; omega, by simp [bytesI]⟩
  | case4 l b is acc hb ih =>
    obtain ⟨head, e1, e2, e3, e4⟩ := ih
    refine ⟨.byte b :: head, by rw [List.cons_append, ← e1],
      by simp only [noIntr_byte, List.length_cons]; omega, e3, fun bs l' h => ?_⟩
    obtain ⟨more, f1, f2, f3⟩ := e4 bs l' h
    exact ⟨b :: more, by simp [f1], by simp only [List.length_cons]; omega, by simp [f3, bytesI]⟩
  | case5 l is acc ih =>
    obtain ⟨head, e1, e2, e3, e4⟩ := ih
    exact ⟨.err 0 :: head, by rw [List.cons_append, ← e1], by simpa using e2, e3,
      fun bs l' h => by simpa using e4 bs l' h⟩
  | case6 l k is acc hk =>
    exact ⟨[.err k], rfl, Nat.le_trans (noIntr_length_le _) (Nat.succ_le_succ (Nat.zero_le _)), by simp,
      by simp⟩
  | case7 l is acc => exact ⟨[], rfl, Nat.zero_le _, by simp, by simp⟩

theorem specUntil_suffix (l : Nat) (is : List Item) (acc : Bytes) :
    (specUntil l is acc).2 <:+ is := by
  obtain ⟨head, e, _⟩ := specUntil_char l is acc
  exact ⟨head, e.symm⟩

theorem specUntil_ne_panic (l : Nat) (is : List Item) (acc : Bytes) :
    (specUntil l is acc).1 ≠ .panic := by
  obtain ⟨_, _, _, h, _⟩ := specUntil_char l is acc
  exact h

theorem specUntil_ok {l : Nat} {is : List Item} {bs : Bytes} {l' : Nat}
    (h : (specUntil l is []).1 = .ok (bs, l')) :
    bs.length + l' = l ∧ Adv is (specUntil l is []).2 bs := by
  obtain ⟨head, e, _, _, h4⟩ := specUntil_char l is []
  obtain ⟨more, rfl, f2, f3⟩ := h4 bs l' h
  exact ⟨f2, head, e, f3⟩

/-! ## `read_until` and `read_line` on bytes followed by any `rest` -/

/-- LF-free bytes are appended; the limit may run out inside them -/
theorem specUntil_bytes (pre : Bytes) (h10 : (10 : UInt8) ∉ pre) :
    ∀ (l : Nat) (acc : Bytes) (rest : List Item),
    specUntil l (bytesI pre ++ rest) acc =
      if l ≤ pre.length then (.ok (acc ++ pre.take l, 0), bytesI (pre.drop l) ++ rest)
      else specUntil (l - pre.length) rest (acc ++ pre) := by
  induction pre with
  | nil => intro l acc rest; cases l <;> simp [bytesI]
  | cons b pre ih =>
    intro l acc rest
    have hb : b ≠ 10 := fun h => h10 (by simp [h])
    cases l with
    | zero => simp
    | succ l =>
      simp only [bytesI_cons, List.cons_append, specUntil, hb, if_false, List.length_cons,
        Nat.add_le_add_iff_right, List.take_succ_cons, List.drop_succ_cons, Nat.add_sub_add_right]
      rw [ih (fun h => h10 (by simp [h])) l (acc ++ [b]) rest]
      simp

/-- … and then the LF, within the limit -/
theorem specUntil_run (pre : Bytes) (limit : Nat) (acc : Bytes) (rest : List Item)
    (h10 : (10 : UInt8) ∉ pre) (hl : pre.length < limit) :
    specUntil limit (bytesI pre ++ .byte 10 :: rest) acc =
      (.ok (acc ++ pre ++ [10], limit - (pre.length + 1)), rest) := by
  obtain ⟨k, hk⟩ : ∃ k, limit - pre.length = k + 1 := ⟨limit - pre.length - 1, by omega⟩
  rw [specUntil_bytes pre h10, if_neg (by omega), hk]
  simp only [specUntil, if_true]
  rw [show limit - (pre.length + 1) = k by omega]

theorem stripEol_crlf (line : Bytes) : stripEol (line ++ [13, 10]) = some line := by
  simp [stripEol]

/-- `read_line` strips at least the LF. -/
theorem stripEol_length (bs line : Bytes) : stripEol bs = some line → line.length < bs.length := by
  unfold stripEol
  have hlen : bs.reverse.length = bs.length := List.length_reverse
  generalize bs.reverse = rv at hlen
  split
  · intro h
    simp only [Option.some.injEq] at h
    subst h
    simp only [List.length_cons] at hlen
    simp only [List.length_reverse]
    omega
  · intro h
    simp only [Option.some.injEq] at h
    subst h
    simp only [List.length_cons] at hlen
    simp only [List.length_reverse]
    omega
  · intro h; simp at h

theorem stripEol_some_mem (raw l : Bytes) (h : stripEol raw = some l) : (10 : UInt8) ∈ raw := by
  unfold stripEol at h
  split at h
  · rename_i r heq; exact List.mem_reverse.mp (by rw [heq]; simp)
  · rename_i r _ heq; exact List.mem_reverse.mp (by rw [heq]; simp)
  · cases h

theorem stripEol_none (q : Bytes) (h10 : (10 : UInt8) ∉ q) : stripEol q = none := by
  cases h : stripEol q with
  | none => rfl
  | some l => exact absurd (stripEol_some_mem q l h) h10

/-- a line ending as `read_line_ending` accepts it -/
def EolOK (eol : Bytes) : Prop := eol = [10] ∨ eol = [13, 10]

/-- a line without content is its line ending -/
theorem stripEol_nil_eol (raw : Bytes) (h : stripEol raw = some []) : EolOK raw := by
  unfold stripEol at h
  split at h
  · rename_i r heq
    simp only [Option.some.injEq, List.reverse_eq_nil_iff] at h
    subst h
    exact .inr (by simpa using congrArg List.reverse heq)
  · rename_i r _ heq
    simp only [Option.some.injEq, List.reverse_eq_nil_iff] at h
    subst h
    exact .inl (by simpa using congrArg List.reverse heq)
  · cases h

/-- a line that fits the limit, with its CRLF, then anything -/
theorem readLine_line (line : Bytes) (h10 : (10 : UInt8) ∉ line) (lim : Nat)
    (hl : line.length + 2 ≤ lim) (Y : List Item) :
    readLine flatSrc (bytesI (line ++ [13, 10]) ++ Y) lim = (.ok line, Y) := by
  have h10' : (10 : UInt8) ∉ line ++ [13] := by simp [h10]
  rw [show bytesI (line ++ [13, 10]) ++ Y = bytesI (line ++ [13]) ++ .byte 10 :: Y by simp [bytesI],
    readLine, flatSrc_readUntil, specUntil_run _ lim [] Y h10' (by simp; omega),
    show [] ++ (line ++ [13]) ++ [10] = line ++ [13, 10] by simp]
  simp only [stripEol_crlf]

/-- `read_line` on at least `limit` bytes without LF: the `Take` is exhausted after `limit` of them,
    UnexpectedEof, the rest of the stream untouched. -/
theorem readLine_endless (pre : Bytes) (limit : Nat) (rest : List Item)
    (h10 : (10 : UInt8) ∉ pre) (hl : limit ≤ pre.length) :
    readLine flatSrc (bytesI pre ++ rest) limit = (.err .eof, bytesI (pre.drop limit) ++ rest) := by
  unfold readLine
  rw [flatSrc_readUntil, specUntil_bytes pre h10, if_pos hl]
  simp [stripEol_none _ fun h => h10 (List.mem_of_mem_take h)]

/-- `read_line` under `Take(lim)` on any stream, whatever it returns: what it consumed holds,
    Interrupted errors apart, at most `lim` items, and it does not panic. (What a returned line is,
    given the bytes: `readLineP_spec` in Lemmas/Prog.lean.) -/
theorem readLine_flat_char (is : List Item) (lim : Nat) :
    ∃ head, is = head ++ (readLine flatSrc is lim).2 ∧ (noIntr head).length ≤ lim ∧
      (readLine flatSrc is lim).1 ≠ .panic := by
  obtain ⟨head, e1, e2, e3, _⟩ := specUntil_char lim is []
  refine ⟨head, ?_⟩
  unfold readLine
  rw [flatSrc_readUntil]
  rcases hs : specUntil lim is [] with ⟨r, j⟩
  rw [hs] at e1 e3
  cases r with
  | ok v =>
    obtain ⟨bs, l'⟩ := v
    simp only
    cases stripEol bs with
    | none => exact ⟨e1, e2, fun h => nomatch h⟩
    | some line => exact ⟨e1, e2, fun h => nomatch h⟩
  | err e => exact ⟨e1, e2, fun h => nomatch h⟩
  | blocked => exact ⟨e1, e2, fun h => nomatch h⟩
  | panic => exact absurd rfl e3

/-! ## A cut stream

`cut` agrees with `full` on the bytes `u` ahead of the cut and then ends, errors or stalls
(`Dead tail`), where `full` goes on with `F`. Each primitive does on `cut` what it does on `full`, as
long as it stays inside `u`; if not, it fails. -/

/-- an error or a stall: neither a value nor a panic -/
def RR.Bad (x : RR α) : Prop := (∃ e, x = .err e) ∨ x = .blocked

theorem RR.Bad.map {f : α → β} {x : RR α} (h : x.Bad) : (x.map f).Bad := by
  rcases h with ⟨e, rfl⟩ | rfl
  · exact .inl ⟨e, rfl⟩
  · exact .inr rfl

theorem RR.Bad.ne_ok {x : RR α} (h : x.Bad) (v : α) : x ≠ .ok v := by
  rcases h with ⟨e, rfl⟩ | rfl <;> simp

theorem RR.Bad.err (e : E) : (RR.err e : RR α).Bad := .inl ⟨e, rfl⟩
theorem RR.Bad.blocked : (RR.blocked : RR α).Bad := .inr rfl

/-- the stream ends, errors (not `Interrupted`) or stalls here -/
def Dead (tail : List Item) : Prop :=
  tail = [] ∨ (∃ k r, k ≠ 0 ∧ tail = .err k :: r) ∨ (∃ r, tail = .pause :: r)

theorem specExact_dead (tail : List Item) (hd : Dead tail) (q : Bytes) (n : Nat)
    (h : q.length < n) : (specExact n (bytesI q ++ tail)).1.Bad := by
  have := specExact_bytes q n tail (by omega)
  rw [bytesI, this]
  obtain ⟨k, hk⟩ : ∃ k, n - q.length = k + 1 := ⟨n - q.length - 1, by omega⟩
  rw [hk]
  refine RR.Bad.map ?_
  rcases hd with rfl | ⟨j, r, hj, rfl⟩ | ⟨r, rfl⟩
  · exact .inl ⟨.eof, by simp [specExact]⟩
  · exact .inl ⟨.io j, by simp [specExact, hj]⟩
  · exact .inr (by simp [specExact])

/-- `full` and `cut` agree on the bytes `u` still ahead of the cut -/
def CutRel (tail F : List Item) (full cut : List Item) : Prop :=
  ∃ u, full = bytesI u ++ F ∧ cut = bytesI u ++ tail

theorem specExact_cut {tail F : List Item} (hd : Dead tail) (n : Nat) {full cut : List Item}
    (h : CutRel tail F full cut) :
    ((specExact n full).1 = (specExact n cut).1 ∧
      CutRel tail F (specExact n full).2 (specExact n cut).2) ∨ (specExact n cut).1.Bad := by
  obtain ⟨u, rfl, rfl⟩ := h
  by_cases hn : n ≤ u.length
  · left
    rw [bytesI, specExact_take u n F hn, specExact_take u n tail hn]
    exact ⟨rfl, u.drop n, rfl, rfl⟩
  · exact .inr (specExact_dead tail hd u n (by omega))

/-- the first LF among the first `l` bytes -/
theorem split_lf_take (u : Bytes) (l : Nat) (h : (10 : UInt8) ∈ u.take l) :
    ∃ pre post, u = pre ++ 10 :: post ∧ (10 : UInt8) ∉ pre ∧ pre.length < l := by
  obtain ⟨pre, post, e, hp⟩ := List.eq_append_cons_of_mem h
  refine ⟨pre, post ++ u.drop l, ?_, hp, ?_⟩
  · rw [← List.cons_append, ← List.append_assoc, ← e, List.take_append_drop]
  · have := congrArg List.length e
    simp only [List.length_take, List.length_append, List.length_cons] at this
    omega

/-- `read_until` on a cut stream: as on the complete one, or a failure, or (EOF, or the limit ran
    out) a line without LF -/
theorem specUntil_cut {tail F : List Item} (hd : Dead tail) (l : Nat) {full cut : List Item}
    (h : CutRel tail F full cut) :
    ((specUntil l full []).1 = (specUntil l cut []).1 ∧
      CutRel tail F (specUntil l full []).2 (specUntil l cut []).2) ∨
    (specUntil l cut []).1.Bad ∨
    ∃ bs l', (specUntil l cut []).1 = .ok (bs, l') ∧ (10 : UInt8) ∉ bs := by
  obtain ⟨u, rfl, rfl⟩ := h
  by_cases h10 : (10 : UInt8) ∈ u.take l
  · obtain ⟨pre, post, rfl, hp, hl⟩ := split_lf_take u l h10
    obtain ⟨k, hk⟩ : ∃ k, l - pre.length = k + 1 := ⟨l - pre.length - 1, by omega⟩
    left
    have e : ∀ X : List Item,
        bytesI (pre ++ 10 :: post) ++ X = bytesI pre ++ (.byte 10 :: (bytesI post ++ X)) := by
      intro X; simp [bytesI]
    have hnl : ¬ l ≤ pre.length := by omega
    rw [e, e, specUntil_bytes pre hp, specUntil_bytes pre hp, if_neg hnl, if_neg hnl, hk]
    simp only [specUntil, if_true, true_and]
    exact ⟨post, rfl, rfl⟩
  · by_cases hl : l ≤ u.length
    · right; right
      have e : ∀ X : List Item, bytesI u ++ X = bytesI (u.take l) ++ (bytesI (u.drop l) ++ X) := by
        intro X; rw [← List.append_assoc, ← bytesI_append, List.take_append_drop]
      rw [e, specUntil_bytes _ h10, if_pos (by simp; omega)]
      exact ⟨_, _, rfl, by simpa using fun h => h10 (List.mem_of_mem_take h)⟩
    · rw [List.take_of_length_le (by omega)] at h10
      obtain ⟨k, hk⟩ : ∃ k, l - u.length = k + 1 := ⟨l - u.length - 1, by omega⟩
      right
      rw [specUntil_bytes u h10, if_neg (by omega), hk]
      rcases hd with rfl | ⟨k, r, hk, rfl⟩ | ⟨r, rfl⟩
      · exact .inr ⟨[] ++ u, k + 1, by simp [specUntil], by simpa using h10⟩
      · exact .inl (.inl ⟨.io k, by simp [specUntil, hk]⟩)
      · exact .inl (.inr (by simp [specUntil]))

end Atto
