/-
  Atto/Lemmas/HopLoop.lean — the redirect loop over an abstract hop. `sendLoop` (Model/Send.lean) and
  `sendLoopT` (Model/SendT.lean) are both `hopLoop`, for their own `step` (how a hop ends) and `obs`
  (what is observed on it): Lemmas/Redirect.lean (`sendLoop_eq`), Lemmas/SendTLemmas.lean
  (`sendLoopT_eq`). What holds of every such loop is proved here: the observation at position `i`
  (`hopLoop_get`), where the chain of URLs goes (`hopUrls_next`), that a final step ends the loop
  (`hopLoop_final_at`), that the last observation and the outcome come from one step
  (`hopLoop_last`), the bound (`hopUrls_length_le`), and how two loops with related steps or
  observations compare
  (`hopLoop_map`, `hopLoop_refines`). The model's loops tell "followed, no connection left" apart from
  "followed, next hop"; `hopLoop_unique` / `hopUrls_unique` take an equation of that shape.
-/
import Atto.Model.Send
namespace Atto

variable {α : Type} (upd : Headers → Url → Headers) (step : Nat → Hop → Url → HopRes)
  (obs : Hop → Url → Headers → Bool → α)

/-- The redirect loop over an abstract hop: `step n hop url` says how the hop made for `url` ends
    (`n` redirections followed so far), `obs hop url hdrs first` what is observed on it. -/
def hopLoop : List Hop → Url → Nat → Headers → Bool → List α × Final
  | [], _, _, _, _ => ([], .outOfHops)
  | hop :: rest, url, n, hdrs, first =>
    match step n hop url with
    | .final f => ([obs hop url hdrs first], f)
    | .follow next =>
      let p := hopLoop rest next (n + 1) (upd hdrs url) false
      (obs hop url hdrs first :: p.1, p.2)

/-- The header maps left by the previous hop, for a list of hop URLs. -/
def hdrsSeq : Headers → List Url → List Headers
  | _, [] => []
  | h, u :: us => h :: hdrsSeq (upd h u) us

/-- The URLs of the successive hops. -/
def hopUrls : List Hop → Url → Nat → List Url
  | [], _, _ => []
  | hop :: rest, url, n =>
    match step n hop url with
    | .final _ => [url]
    | .follow next => url :: hopUrls rest next (n + 1)

variable {upd step obs}

theorem hopLoop_final {hop rest url n hdrs first f} (h : step n hop url = .final f) :
    hopLoop upd step obs (hop :: rest) url n hdrs first = ([obs hop url hdrs first], f) := by
  simp [hopLoop, h]

theorem hopLoop_follow {hop rest url n hdrs first next} (h : step n hop url = .follow next) :
    hopLoop upd step obs (hop :: rest) url n hdrs first =
      (obs hop url hdrs first :: (hopLoop upd step obs rest next (n + 1) (upd hdrs url) false).1,
        (hopLoop upd step obs rest next (n + 1) (upd hdrs url) false).2) := by
  simp [hopLoop, h]

theorem hopUrls_final {hop rest url n f} (h : step n hop url = .final f) :
    hopUrls step (hop :: rest) url n = [url] := by simp [hopUrls, h]

theorem hopUrls_follow {hop rest url n next} (h : step n hop url = .follow next) :
    hopUrls step (hop :: rest) url n = url :: hopUrls step rest next (n + 1) := by simp [hopUrls, h]

theorem hopUrls_head (hop rest url n) : (hopUrls step (hop :: rest) url n)[0]? = some url := by
  cases h : step n hop url with
  | final f => rw [hopUrls_final h]; rfl
  | follow next => rw [hopUrls_follow h]; rfl

/-- A function with the equations of the model's loops (which match on the remaining connections
    before they recurse) is `hopLoop`. -/
theorem hopLoop_unique (F : List Hop → Url → Nat → Headers → Bool → List α × Final)
    (hnil : ∀ url n hdrs first, F [] url n hdrs first = ([], .outOfHops))
    (hcons : ∀ hop rest url n hdrs first, F (hop :: rest) url n hdrs first =
      match step n hop url with
      | .final f => ([obs hop url hdrs first], f)
      | .follow next =>
        match rest with
        | [] => ([obs hop url hdrs first], .outOfHops)
        | _ :: _ =>
          (obs hop url hdrs first :: (F rest next (n + 1) (upd hdrs url) false).1,
           (F rest next (n + 1) (upd hdrs url) false).2))
    (hops : List Hop) : ∀ url n hdrs first,
    F hops url n hdrs first = hopLoop upd step obs hops url n hdrs first := by
  induction hops with
  | nil => exact hnil
  | cons hop rest ih =>
    intro url n hdrs first
    rw [hcons, hopLoop]
    cases step n hop url with
    | final f => rfl
    | follow next => cases rest with
      | nil => rfl
      | cons h2 rest => simp only [ih]

theorem hopUrls_unique (F : List Hop → Url → Nat → List Url)
    (hnil : ∀ url n, F [] url n = [])
    (hcons : ∀ hop rest url n, F (hop :: rest) url n =
      match step n hop url with
      | .final _ => [url]
      | .follow next =>
        match rest with
        | [] => [url]
        | _ :: _ => url :: F rest next (n + 1))
    (hops : List Hop) : ∀ url n, F hops url n = hopUrls step hops url n := by
  induction hops with
  | nil => exact hnil
  | cons hop rest ih =>
    intro url n
    rw [hcons, hopUrls]
    cases step n hop url with
    | final f => rfl
    | follow next => cases rest with
      | nil => rfl
      | cons h2 rest => simp only [ih]

/-- Everything about position `i` at once: the `i`-th observation exists exactly when the `i`-th URL
    does, and it is `obs` of the `i`-th connection, the `i`-th URL and the header map left by the
    hops before. -/
theorem hopLoop_get (hops : List Hop) : ∀ (url : Url) (n : Nat) (hdrs : Headers) (first : Bool) (i : Nat),
    (hopLoop upd step obs hops url n hdrs first).1[i]? =
      (hopUrls step hops url n)[i]?.bind fun u =>
        (hdrsSeq upd hdrs (hopUrls step hops url n))[i]?.bind fun hin =>
          hops[i]?.map fun hop => obs hop u hin (first && i == 0) := by
  induction hops with
  | nil => intro url n hdrs first i; rfl
  | cons hop rest ih =>
    intro url n hdrs first i
    cases h : step n hop url with
    | final f =>
      rw [hopLoop_final h, hopUrls_final h]
      cases i <;> simp [hdrsSeq]
    | follow next =>
      rw [hopLoop_follow h, hopUrls_follow h]
      cases i with
      | zero => simp [hdrsSeq]
      | succ i => simp [hdrsSeq, ih]

/-- The same read from an observation. -/
theorem hopLoop_get_some {hops : List Hop} {url : Url} {n : Nat} {hdrs : Headers} {first : Bool} {i : Nat}
    {o : α} : (hopLoop upd step obs hops url n hdrs first).1[i]? = some o →
    ∃ u hin hop, (hopUrls step hops url n)[i]? = some u ∧
      (hdrsSeq upd hdrs (hopUrls step hops url n))[i]? = some hin ∧ hops[i]? = some hop ∧
      o = obs hop u hin (first && i == 0) := by
  rw [hopLoop_get]
  simp only [Option.bind_eq_some_iff, Option.map_eq_some_iff]
  rintro ⟨u, hu, hin, hh, hop, hhop, rfl⟩
  exact ⟨u, hin, hop, hu, hh, hhop, rfl⟩

theorem hopLoop_length (hops : List Hop) : ∀ (url : Url) (n : Nat) (hdrs : Headers) (first : Bool),
    (hopLoop upd step obs hops url n hdrs first).1.length = (hopUrls step hops url n).length := by
  induction hops with
  | nil => intro url n hdrs first; rfl
  | cons hop rest ih =>
    intro url n hdrs first
    cases h : step n hop url with
    | final f => rw [hopLoop_final h, hopUrls_final h]; rfl
    | follow next => rw [hopLoop_follow h, hopUrls_follow h]; simp [ih]

/-- Hop `i+1` goes where hop `i`'s step pointed. -/
theorem hopUrls_next (hops : List Hop) : ∀ (url : Url) (n i : Nat) (u' : Url),
    (hopUrls step hops url n)[i + 1]? = some u' →
    ∃ hop u, hops[i]? = some hop ∧ (hopUrls step hops url n)[i]? = some u ∧
      step (n + i) hop u = .follow u' := by
  induction hops with
  | nil => intro url n i u' h; simp [hopUrls] at h
  | cons hop rest ih =>
    intro url n i u' h
    cases he : step n hop url with
    | final f => rw [hopUrls_final he] at h; simp at h
    | follow next =>
      rw [hopUrls_follow he] at h ⊢
      cases rest with
      | nil => simp [hopUrls] at h
      | cons h2 rest =>
        cases i with
        | zero =>
          simp only [Nat.zero_add, List.getElem?_cons_succ, hopUrls_head, Option.some.injEq] at h
          subst h
          exact ⟨hop, url, rfl, rfl, he⟩
        | succ i =>
          obtain ⟨hop', u, h1, h2', h3⟩ := ih next (n + 1) i u' (by simpa using h)
          exact ⟨hop', u, by simpa using h1, by simpa using h2', by rw [← h3]; congr 1; omega⟩

/-- Locality: a final step at a reached hop is the outcome of the loop, and that hop is the last. -/
theorem hopLoop_final_at (hops : List Hop) : ∀ (url : Url) (n : Nat) (hdrs : Headers) (first : Bool)
    (i : Nat) (u : Url) (hop : Hop) (f : Final),
    (hopUrls step hops url n)[i]? = some u → hops[i]? = some hop → step (n + i) hop u = .final f →
    (hopLoop upd step obs hops url n hdrs first).2 = f ∧
    (hopUrls step hops url n).length = i + 1 := by
  induction hops with
  | nil => intro url n hdrs first i u hop f hu; simp [hopUrls] at hu
  | cons hop0 rest ih =>
    intro url n hdrs first i u hop f hu hh hs
    cases i with
    | zero =>
      simp only [hopUrls_head, Option.some.injEq, List.getElem?_cons_zero] at hu hh
      subst hu; subst hh
      rw [Nat.add_zero] at hs
      rw [hopLoop_final hs, hopUrls_final hs]; exact ⟨rfl, rfl⟩
    | succ i =>
      cases he : step n hop0 url with
      | final f0 => rw [hopUrls_final he] at hu; simp at hu
      | follow next =>
        rw [hopUrls_follow he] at hu ⊢
        rw [hopLoop_follow he]
        have := ih next (n + 1) (upd hdrs url) false i u hop f (by simpa using hu)
          (by simpa using hh) (by rw [← hs]; congr 1; omega)
        exact ⟨this.1, by simp [this.2]⟩

/-- At most one URL per connection; if a step follows only below the limit, at most `max - n + 1`. -/
theorem hopUrls_length_le {max : Nat} (hfollow : ∀ n hop url next, step n hop url = .follow next → n + 1 ≤ max)
    (hops : List Hop) : ∀ (url : Url) (n : Nat),
    (hopUrls step hops url n).length ≤ hops.length ∧
    (hopUrls step hops url n).length ≤ max - n + 1 := by
  induction hops with
  | nil => intro url n; simp [hopUrls]
  | cons hop rest ih =>
    intro url n
    cases he : step n hop url with
    | final f => rw [hopUrls_final he]; simp
    | follow next =>
      rw [hopUrls_follow he]
      have := ih next (n + 1)
      have := hfollow _ _ _ _ he
      simp only [List.length_cons]
      omega

/-- Projecting the observations is the loop with the projected observation. -/
theorem hopLoop_map {β : Type} (π : α → β) (hops : List Hop) : ∀ url n hdrs first,
    ((hopLoop upd step obs hops url n hdrs first).1.map π, (hopLoop upd step obs hops url n hdrs first).2) =
      hopLoop upd step (fun hop u h f => π (obs hop u h f)) hops url n hdrs first := by
  induction hops with
  | nil => intros; rfl
  | cons hop rest ih =>
    intro url n hdrs first
    cases h : step n hop url with
    | final f => rw [hopLoop_final h, hopLoop_final h]; rfl
    | follow next => rw [hopLoop_follow h, hopLoop_follow h, ← ih]; rfl

/-- A loop whose steps are those of another one, except that it may stop with `f₀` where the other
    goes on: its observations are the first observations of the other; they are all of them, and the
    outcomes agree, unless it does stop with `f₀`. -/
theorem hopLoop_refines {step' : Nat → Hop → Url → HopRes} {f₀ : Final}
    (hs : ∀ n hop url, step' n hop url = step n hop url ∨ step' n hop url = .final f₀) (hops : List Hop) :
    ∀ url n hdrs first,
      (hopLoop upd step' obs hops url n hdrs first).1 <+: (hopLoop upd step obs hops url n hdrs first).1 ∧
      ((hopLoop upd step' obs hops url n hdrs first).2 ≠ f₀ →
        hopLoop upd step obs hops url n hdrs first = hopLoop upd step' obs hops url n hdrs first) := by
  induction hops with
  | nil => intro url n hdrs first; exact ⟨List.prefix_refl _, fun _ => rfl⟩
  | cons hop rest ih =>
    intro url n hdrs first
    rcases hs n hop url with h | h
    · cases h' : step n hop url with
      | final f =>
        rw [hopLoop_final h', hopLoop_final (h.trans h')]
        exact ⟨List.prefix_refl _, fun _ => rfl⟩
      | follow next =>
        rw [hopLoop_follow h', hopLoop_follow (h.trans h')]
        obtain ⟨i1, i2⟩ := ih next (n + 1) (upd hdrs url) false
        exact ⟨(List.prefix_cons_inj _).mpr i1, fun hne => by rw [i2 hne]⟩
    · rw [hopLoop_final h]
      refine ⟨?_, fun hne => absurd rfl hne⟩
      cases h' : step n hop url with
      | final f => rw [hopLoop_final h']; exact List.prefix_refl _
      | follow next => rw [hopLoop_follow h']; exact ⟨_, rfl⟩


/-- The last observation and the outcome come from one step, made for the last URL: the step is
    final with that outcome, or it follows and there is no connection left. The connection `hop` is
    one of the list; its place and the count `m` are only said to exist: by position, see
    `hopLoop_get` and `hopLoop_final_at`. -/
theorem hopLoop_last (hops : List Hop) : ∀ url n hdrs first, hops ≠ [] →
    ∃ hop u hin fl m, hop ∈ hops ∧ u ∈ (hopUrls step hops url n).getLast? ∧
      (hopLoop upd step obs hops url n hdrs first).1.getLast? = some (obs hop u hin fl) ∧
      (step m hop u = .final (hopLoop upd step obs hops url n hdrs first).2 ∨
        (∃ next, step m hop u = .follow next) ∧ (hopLoop upd step obs hops url n hdrs first).2 = .outOfHops) := by
  induction hops with
  | nil => intro _ _ _ _ h; exact absurd rfl h
  | cons hop rest ih =>
    intro url n hdrs first _
    cases h : step n hop url with
    | final f =>
      rw [hopLoop_final h, hopUrls_final h]
      exact ⟨hop, url, hdrs, first, n, List.mem_cons_self, rfl, rfl, .inl h⟩
    | follow next =>
      rw [hopLoop_follow h, hopUrls_follow h]
      cases rest with
      | nil => exact ⟨hop, url, hdrs, first, n, List.mem_cons_self, rfl, rfl, .inr ⟨⟨next, h⟩, rfl⟩⟩
      | cons h2 rest =>
        obtain ⟨hop', u, hin, fl, m, hm, h0, h1, h3⟩ := ih next (n + 1) (upd hdrs url) false (by simp)
        refine ⟨hop', u, hin, fl, m, List.mem_cons_of_mem _ hm, ?_, ?_, h3⟩
        · rw [List.getLast?_cons_of_ne_nil (by intro h0'; rw [h0'] at h0; cases h0)]; exact h0
        · rw [List.getLast?_cons_of_ne_nil (by intro h0; rw [h0] at h1; cases h1)]; exact h1

end Atto
