/-
  Atto/Lemmas/ExampleFacts.lean — what the non-vacuity `example`s need to know about the data of
  ExampleData.lean: `Ex.seg w` and `Ex.seg2 w` are segmentations of `w` for every `w`, and the facts
  about the concrete heads and chunks.
-/
import Atto.Lemmas.ExampleData
import Atto.Model.BodyBuf
namespace Atto

theorem flatT_append (a b : Transport) : flatT (a ++ b) = flatT a ++ flatT b := by
  induction a with
  | nil => rfl
  | cons s r ih => cases s <;> simp [flatT, ih]

theorem wfT_append {a b : Transport} (ha : wfT a) (hb : wfT b) : wfT (a ++ b) := by
  induction a with
  | nil => exact hb
  | cons s r ih =>
    cases s with
    | data bs => exact ⟨ha.1, ih ha.2⟩
    | err k => exact ih ha
    | pause => exact ih ha

namespace Ex

/-- `Ex.seg` is a segmentation: for EVERY `w` the flat stream is `w` -/
theorem flatT_seg (w : Bytes) : flatT (seg w) = bytesI w := by
  have e : w = w.take 7 ++ ((w.drop 7).take 30 ++ ((w.drop 37).take 1 ++ w.drop 38)) := by
    have h1 : (w.drop 37).take 1 ++ w.drop 38 = w.drop 37 := by
      rw [show w.drop 38 = (w.drop 37).drop 1 by rw [List.drop_drop]]; exact List.take_append_drop ..
    have h2 : (w.drop 7).take 30 ++ w.drop 37 = w.drop 7 := by
      rw [show w.drop 37 = (w.drop 7).drop 30 by rw [List.drop_drop]]; exact List.take_append_drop ..
    rw [h1, h2, List.take_append_drop]
  simp only [seg, flatT, List.append_nil, bytesI]
  rw [← List.map_append, ← List.map_append, ← List.map_append, ← e]

/-- … followed by anything -/
theorem flatT_seg_append (w : Bytes) (tail : Transport) :
    flatT (seg w ++ tail) = bytesI w ++ flatT tail := by
  rw [flatT_append, flatT_seg]

/-- no segment of `Ex.seg w` is empty as soon as `w` has more than 38 bytes -/
theorem wfT_seg (w : Bytes) (h : 38 < w.length) : wfT (seg w) := by
  refine ⟨List.ne_nil_of_length_pos ?_, List.ne_nil_of_length_pos ?_, List.ne_nil_of_length_pos ?_,
    List.ne_nil_of_length_pos ?_, trivial⟩ <;>
    simp only [List.length_take, List.length_drop] <;> omega

theorem wfT_seg_append (w : Bytes) (tail : Transport) (h : 38 < w.length) (ht : wfT tail) :
    wfT (seg w ++ tail) := wfT_append (wfT_seg w h) ht

/-- the same for the coarser segmentation `Ex.seg2` -/
theorem flatT_seg2 (w : Bytes) : flatT (seg2 w) = bytesI w := by
  simp only [seg2, flatT, List.append_nil, bytesI]
  rw [← List.map_append, List.take_append_drop]

theorem wfT_seg2 (w : Bytes) (h : 10 < w.length) : wfT (seg2 w) := by
  refine ⟨List.ne_nil_of_length_pos ?_, List.ne_nil_of_length_pos ?_, trivial⟩ <;>
    simp only [List.length_take, List.length_drop] <;> omega

theorem flatT_seg2_append (w : Bytes) (tail : Transport) :
    flatT (seg2 w ++ tail) = bytesI w ++ flatT tail := by
  rw [flatT_append, flatT_seg2]

theorem wfT_seg2_append (w : Bytes) (tail : Transport) (h : 10 < w.length) (ht : wfT tail) :
    wfT (seg2 w ++ tail) := wfT_append (wfT_seg2 w h) ht

/-- a list with a long prefix is long -/
theorem long {n : Nat} {a b : Bytes} (h : n < a.length) : n < (a ++ b).length := by
  rw [List.length_append]; omega

theorem headTE_wf : headTE.WF Consts.maxLineLen := by decide +kernel
theorem headCL_wf : headCL.WF Consts.maxLineLen := by decide +kernel
theorem headClose_wf : headClose.WF Consts.maxLineLen := by decide +kernel
theorem chunks_wf : ∀ c ∈ chunks, c.WF Consts.chunkSizeLineLimit := by decide +kernel
theorem chunk_wf (i : Nat) (h : i < chunks.length) : chunks[i].WF Consts.chunkSizeLineLimit :=
  chunks_wf _ (List.getElem_mem h)
theorem last_wf : last.WF Consts.chunkSizeLineLimit := by decide +kernel
theorem lastT_wf : lastT.WF Consts.chunkSizeLineLimit := by decide +kernel

theorem headTE_chunked : isChunked headTE.seen = true := by decide +kernel
theorem headTE_framing : chooseFraming .get headTE.code headTE.seen = .ok .chunked := by
  unfold chooseFraming; rw [headTE_chunked]; rfl
theorem headCL_chunked : isChunked headCL.seen = false := by decide +kernel
theorem headClose_chunked : isChunked headClose.seen = false := by decide +kernel
theorem headCL_cl : isContentLength headCL.seen = .ok (some 11) := by decide +kernel
theorem headCL_cl_body : isContentLength headCL.seen = .ok (some body.length) := by decide +kernel
theorem headClose_cl : isContentLength headClose.seen = .ok none := by decide +kernel

theorem headTE_long : 38 < headTE.render.length := by decide +kernel
theorem headCL_long : 38 < headCL.render.length := by decide +kernel
theorem headClose_body_long : 38 < (headClose.render ++ body).length := by decide +kernel
theorem headClose_long : 10 < headClose.render.length := by decide +kernel

/-! ### the scenarios the examples share -/

/-- the caller's read sizes: empty buffers, small ones, one larger than any body -/
def readSizes : List Nat := [0, 3, 100, 1, 5, 5, 0, 2]

/-- a consumer of the buffered view that peeks twice, consumes less and more than it saw, and reads -/
def viewOps : List BOp :=
  [.fill, .fill, .consume 1, .read 3, .consume 0, .fill, .consume 1, .read 1, .fill, .read 2, .read 100,
   .read 100, .read 100, .fill, .read 5, .fill]

/-- what follows a complete frame on the wire: a byte of garbage, then silence -/
def afterFrame : List Item := [.byte 7, .pause]

/-- the chunked response, cut by `seg`, with garbage and silence behind it -/
def chunkedT : Transport := seg (headTE.render ++ encChunks chunks ++ last.enc) ++ [.data [7], .pause]
/-- the same with a trailer section behind the last-chunk -/
def chunkedTrailersT : Transport :=
  seg (headTE.render ++ encChunks chunks ++ lastT.enc) ++ [.data [7], .pause]
/-- the `Content-Length` response, with garbage and silence behind it -/
def lengthT : Transport := seg (headCL.render ++ body) ++ [.data [7], .pause]
/-- the close-delimited response -/
def closeT : Transport := seg (headClose.render ++ body)
/-- `Content-Length: 11`, closed after five bytes -/
def lengthShortT : Transport := seg (headCL.render ++ str "hello")

theorem hello_short : (str "hello").length < 11 := by decide +kernel
theorem hello_within : ∀ n, some 11 = some n → (str "hello").length ≤ n := by decide +kernel

/-- the chunked response reset inside its second chunk: nine of that chunk's bytes arrive, then a
    connection reset (kind 104) after which the script would even deliver more bytes -/
def resetPart : Bytes := chunks[1].enc.take 9
def resetTail : List Item := [.err 104, .byte 1, .byte 2]
def resetT : Transport :=
  seg (headTE.render ++ encChunks [chunks[0]] ++ resetPart) ++ [.err 104, .data [1, 2]]

theorem chunk0_wf : ∀ c ∈ [chunks[0]], c.WF Consts.chunkSizeLineLimit :=
  fun _ hc => List.mem_singleton.1 hc ▸ chunk_wf 0 (by decide)
theorem resetPart_in_chunk :
    ∃ c : ChunkS, c.WF Consts.chunkSizeLineLimit ∧ resetPart.length < c.enc.length ∧ resetPart <+: c.enc :=
  ⟨chunks[1], chunk_wf 1 (by decide), by decide +kernel, List.take_prefix _ _⟩
theorem resetTail_err : ∃ k r, k ≠ 0 ∧ resetTail = .err k :: r := ⟨104, _, by decide, rfl⟩

end Ex
end Atto
