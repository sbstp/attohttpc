/-
  Atto/Lemmas/ChunkedAny.lean — the chunked decoder (`Chunked` on the flat item stream) over ANY
  stream: arbitrary corruption (garbage size lines, data not followed by CRLF), I/O errors and
  stalls anywhere, the caller reading on after an error.
  * what a refill consumed: a piece of the stream made of bytes and of Interrupted errors (`Adv`;
    `read_exact` / `read_until` retry those), and what its bytes are — a size line, data, what ends a
    chunk (`RefillB`, a relation between bytes and decoder state, proved on the programs of
    Lemmas/Prog.lean without any stream);
  * nothing fabricated: one `read` hands out bytes from the front of what the decoder could still
    hand out (`read_pot`);
  * a failure is latched: a `read` that does not return `Ok` leaves `failed` set
    (`read_flat_not_ok_failed`);
  * `Ok(0)` on a non-empty caller buffer only after a size line that parses to 0, a trailer section
    (possibly empty, bounded) and a line ending (`read_clean`).
  The runs are in Lemmas/ChunkedRuns.lean; used by Props/C02u.
-/
import Atto.Lemmas.ChunkedFlat
namespace Atto

/-! ## What a refill consumed

The shapes `DataB`, `RefillB` (Lemmas/Prog.lean) relate the bytes a refill consumed to the state it
leaves; `refill_flat_adv` says it of a refill on ANY stream. -/

/-- a chunk-size line that parses to 0, a trailer section (possibly empty: at most
    `MAX_TRAILER_LINES` lines with non-empty content) and a line ending (the empty line) -/
def TermB (bs : Bytes) : Prop :=
  ∃ line trs eol, bs = line ++ trs ++ eol ∧ (∃ l, stripEol line = some l ∧ parseChunkSize l = .ok 0) ∧
    TrailerSec trs ∧ EolOK eol

/-- a refill (with `0 < MAX_BUFFER_LEN`) from a decoder that is not at the end: it believes to be at
    the end afterwards, or hands out nothing, only if it consumed the terminator -/
theorem RefillB.term {k k' : Core} {m : Nat} {bs : Bytes} (h : RefillB k m bs k') (hm : 0 < m)
    (he : k.reachedEof = false) :
    (k'.reachedEof = true → k'.remaining = 0 ∧ TermB bs) ∧ (k'.buffer = [] → TermB bs) := by
  rcases h with ⟨hr, he', hd⟩ | ⟨hr, raw, l, sz, more, hst, hp, e, he', hd⟩
  · refine ⟨fun h => ?_, fun hb => ?_⟩
    · rw [he', he] at h; cases h
    · have := hd.length
      rw [hb] at this
      simp only [List.length_nil] at this
      omega
  · have hz : sz = 0 → k'.remaining = 0 ∧ TermB bs := by
      intro h0
      subst h0
      obtain ⟨_, hlen, hrem, hcase⟩ := hd
      have hb : k'.buffer = [] := List.length_eq_zero_iff.mp (by rw [hlen]; simp)
      have hr0 : k'.remaining = 0 := by rw [hrem]; simp
      refine ⟨hr0, ?_⟩
      rcases hcase with ⟨hne, _⟩ | ⟨_, trs, eol, ht, _, heol, e2⟩
      · exact absurd hr0 hne
      · rw [hb, List.nil_append] at e2
        exact ⟨raw, trs, eol, by rw [e, e2, List.append_assoc], ⟨l, hst, hp⟩, ht, heol⟩
    refine ⟨fun h => hz ?_, fun hb => (hz ?_).2⟩
    · rw [he', he] at h; simpa using h
    · have := hd.length
      rw [hb] at this
      simp only [List.length_nil] at this
      omega

/-! ## The refill on any stream -/

/-- a successful refill consumed a clean piece of the stream (`Adv`), of the shape `RefillB` -/
def RefillOK (c : Chunked (List Item)) (m : Nat) (c' : Chunked (List Item)) : Prop :=
  ∃ bs, Adv c.inner c'.inner bs ∧ RefillB c.core m bs c'.core

theorem refill_flat_adv (c : Chunked (List Item)) (m : Nat) :
    (c.refill flatSrc m).2.inner <:+ c.inner ∧
    ((c.refill flatSrc m).1 = .ok () →
      (c.refill flatSrc m).2.failed = c.failed ∧ RefillOK c m (c.refill flatSrc m).2) := by
  refine ⟨c.refill_flat_suffix m, fun hok => ?_⟩
  obtain ⟨bs, f, h, ha⟩ := c.refill_flat_spec m
  obtain ⟨rfl, h1, h2⟩ := h.of_ok () hok
  exact ⟨h1, bs, ha rfl, h2⟩

theorem RefillOK.adv {c c' : Chunked (List Item)} {m : Nat} (h : RefillOK c m c') :
    c'.consumed = 0 ∧ ∃ pre t, Adv c.inner c'.inner (pre ++ c'.buffer ++ t) := by
  obtain ⟨bs, ha, hB⟩ := h
  obtain ⟨h0, pre, t, rfl⟩ := hB.shape
  exact ⟨h0, pre, t, ha⟩

/-! ## `fill_buf` and `read` on any stream: the four cases -/

/-- the four ways a `read` of the decoder can go, on any stream -/
theorem read_flat_cases (c : Chunked (List Item)) (m n : Nat) (hc : c.consumed ≤ c.buffer.length) :
    (c.failed = true ∧ c.read flatSrc m n = (.err .chunk, c)) ∨
    (c.failed = false ∧ ¬ (c.buffer.length = c.consumed ∧ ¬ (c.remaining = 0 ∧ c.reachedEof)) ∧
      c.read flatSrc m n = (.ok ((avail c).take n), c.consume ((avail c).take n).length)) ∨
    (c.failed = false ∧ (c.buffer.length = c.consumed ∧ ¬ (c.remaining = 0 ∧ c.reachedEof)) ∧
      ∃ c', c.read flatSrc m n = (.ok ((avail c').take n), c'.consume ((avail c').take n).length) ∧
        c'.failed = false ∧ RefillOK c m c') ∨
    (c.failed = false ∧ (c.buffer.length = c.consumed ∧ ¬ (c.remaining = 0 ∧ c.reachedEof)) ∧
      ∃ res c', c.read flatSrc m n = (res, c') ∧ res.Bad ∧ c'.failed = true ∧ c'.buffer = [] ∧
        c'.consumed = 0 ∧ c'.inner <:+ c.inner) := by
  cases hf : c.failed with
  | true => exact .inl ⟨rfl, read_of_fillBuf_err _ _ _ _ _ _ (fillBuf_failed _ _ _ hf)⟩
  | false =>
    by_cases hcond : c.buffer.length = c.consumed ∧ ¬ (c.remaining = 0 ∧ c.reachedEof)
    · have hnp := refill_flat_ne_panic c m
      obtain ⟨h1, h3⟩ := refill_flat_adv c m
      rcases hr : c.refill flatSrc m with ⟨res, c'⟩
      rw [hr] at hnp h1 h3
      cases res with
      | ok u =>
        obtain ⟨h2, hro⟩ := h3 rfl
        refine .inr (.inr (.inl ⟨rfl, hcond, c', read_of_fillBuf _ _ _ _ n _ ?_, by rw [h2, hf], hro⟩))
        exact fillBuf_refill_ok _ _ _ m hf hcond hr (by rw [hro.adv.1]; exact Nat.zero_le _)
      | err e =>
        refine .inr (.inr (.inr ⟨rfl, hcond, .err e, { c' with failed := true, buffer := [], consumed := 0 },
          read_of_fillBuf_err _ _ _ _ _ _ ?_, .inl ⟨e, rfl⟩, rfl, rfl, rfl, h1⟩))
        rw [fillBuf_refill _ _ _ hf hcond, hr]
      | blocked =>
        refine .inr (.inr (.inr ⟨rfl, hcond, .blocked, { c' with failed := true, buffer := [], consumed := 0 },
          read_of_fillBuf_blocked _ _ _ _ _ ?_, .inr rfl, rfl, rfl, rfl, h1⟩))
        rw [fillBuf_refill _ _ _ hf hcond, hr]
      | panic => exact absurd rfl hnp
    · exact .inr (.inl ⟨rfl, hcond,
        read_of_fillBuf _ _ _ _ n _ (by rw [fillBuf_noRefill _ _ _ hf hcond hc]; rfl)⟩)

/-! ## (U1) nothing fabricated -/

/-- everything the decoder can still hand out: the unread part of its buffer, then the bytes of
    the stream -/
def pot (c : Chunked (List Item)) : Bytes := avail c ++ bytesOf c.inner

theorem pot_fresh (is : List Item) : pot (fresh is) = bytesOf is := by
  simp [pot, avail, fresh]

theorem pot_take_consume (c : Chunked (List Item)) (n : Nat) :
    (avail c).take n ++ pot (c.consume ((avail c).take n).length) = pot c := by
  unfold pot
  rw [avail_consume, ← List.append_assoc, take_append_drop_min]
  rfl

/-- one `read` hands out bytes from the front of what was available, in order -/
theorem read_pot (c : Chunked (List Item)) (m n : Nat) (hc : c.consumed ≤ c.buffer.length) :
    ((c.read flatSrc m n).1.got ++ pot (c.read flatSrc m n).2).Sublist (pot c) := by
  rcases read_flat_cases c m n hc with ⟨_, h⟩ | ⟨_, _, h⟩ | ⟨_, hcond, c', h, _, hro⟩ |
      ⟨_, hcond, res, c', h, hb, _, h2, h3, h4⟩
  · rw [h]; exact List.Sublist.refl _
  · rw [h]; simp only [RR.got]; rw [pot_take_consume]; exact List.Sublist.refl _
  · rw [h]; simp only [RR.got]; rw [pot_take_consume]
    have hav : avail c = [] := (avail_eq_nil_iff c hc).mpr hcond.1
    obtain ⟨h0, pre, t, ha⟩ := hro.adv
    have hav' : avail c' = c'.buffer := by simp [avail, h0]
    simp only [pot, hav, hav', List.nil_append]
    rw [ha.bytesOf_eq, List.append_assoc, List.append_assoc]
    exact (List.sublist_append_right pre _).trans
      ((List.sublist_append_right t _).append_left _ |>.append_left _)
  · rw [h]
    have hr : res.got = [] := by rcases hb with ⟨e, rfl⟩ | rfl <;> rfl
    have hav' : avail c' = [] := by simp [avail, h2]
    simp only [hr, pot, hav', List.nil_append]
    exact (suffix_bytesOf_sublist h4).trans (List.sublist_append_right _ _)

/-! ## (U2) a failure is latched -/

theorem read_flat_not_ok_failed (c : Chunked (List Item)) (m n : Nat)
    (hc : c.consumed ≤ c.buffer.length) (h : ∀ bs, (c.read flatSrc m n).1 ≠ .ok bs) :
    (c.read flatSrc m n).2.failed = true := by
  rcases read_flat_cases c m n hc with ⟨hf, e⟩ | ⟨_, _, e⟩ | ⟨_, _, c', e, _, _⟩ |
      ⟨_, _, res, c', e, _, h1, _⟩
  · rw [e]; exact hf
  · rw [e] at h; exact absurd rfl (h _)
  · rw [e] at h; exact absurd rfl (h _)
  · rw [e]; exact h1

/-! ## (U3) a clean end needs the terminator -/

/-- the stream really contains, free of errors other than Interrupted ones up to that point, a
    chunk-size line that parses to 0 followed by a trailer section (possibly empty: at most
    `MAX_TRAILER_LINES` lines with non-empty content) and a line ending (the empty line) -/
def TermT (rest : List Item) : Prop :=
  ∃ (pre line trs eol : Bytes) (post : List Item), Adv rest post (pre ++ line ++ trs ++ eol) ∧
    (∃ l, stripEol line = some l ∧ parseChunkSize l = .ok 0) ∧ TrailerSec trs ∧ EolOK eol

/-- as long as the decoder has not failed, what it consumed of `rest` is clean (`Adv`), and it
    believes to be at the end only if the terminator was there -/
def KInv (rest : List Item) (c : Chunked (List Item)) : Prop :=
  c.failed = false →
    (∃ bs, Adv rest c.inner bs) ∧ (c.reachedEof = true → c.remaining = 0 ∧ TermT rest)

theorem KInv.fresh (rest : List Item) : KInv rest (fresh rest) :=
  fun _ => ⟨⟨[], Adv.refl _⟩, fun h => by simp [Atto.fresh] at h⟩

theorem KInv.consume {rest : List Item} {c : Chunked (List Item)} (h : KInv rest c) (k : Nat) :
    KInv rest (c.consume k) := h

/-- a size line that parses to 0, read at a clean position, then a data refill: the terminator -/
theorem TermT.of_adv {rest post : List Item} {pre bs : Bytes} (ha : Adv rest post (pre ++ bs))
    (h : TermB bs) : TermT rest := by
  obtain ⟨line, trs, eol, rfl, hl, ht, he⟩ := h
  exact ⟨pre, line, trs, eol, post, by simpa [List.append_assoc] using ha, hl, ht, he⟩

/-- one `read`: the invariant is kept, and `Ok(0)` on a non-empty caller buffer means that the
    terminator is in the stream -/
theorem read_clean (rest : List Item) (c : Chunked (List Item)) (m n : Nat) (hm : 0 < m)
    (hc : c.consumed ≤ c.buffer.length) (hk : KInv rest c) :
    KInv rest (c.read flatSrc m n).2 ∧
    (0 < n → (c.read flatSrc m n).1 = .ok [] → TermT rest) := by
  rcases read_flat_cases c m n hc with ⟨hf, e⟩ | ⟨hf, hcond, e⟩ | ⟨hf, hcond, c', e, hf', hro⟩ |
      ⟨_, _, res, c', e, hb, h1, _⟩
  · rw [e]; exact ⟨hk, by simp⟩
  · rw [e]
    refine ⟨hk.consume _, ?_⟩
    intro hn hout
    simp only [RR.ok.injEq] at hout
    have hav : avail c = [] := (List.take_eq_nil_iff.mp hout).resolve_left (by omega)
    have hlen := (avail_eq_nil_iff c hc).mp hav
    have : c.remaining = 0 ∧ c.reachedEof = true := Decidable.not_not.mp fun h => hcond ⟨hlen, h⟩
    exact ((hk hf).2 this.2).2
  · rw [e]
    obtain ⟨⟨bs, ha0⟩, hke⟩ := hk hf
    have heof : c.reachedEof = false := Bool.eq_false_iff.mpr fun he => hcond.2 ⟨(hke he).1, he⟩
    obtain ⟨bs', ha, hB⟩ := hro
    obtain ⟨k2, k3⟩ := hB.term hm heof
    refine ⟨fun _ => ⟨⟨_, ha0.trans ha⟩, fun h => ⟨(k2 h).1, .of_adv (ha0.trans ha) (k2 h).2⟩⟩, ?_⟩
    intro hn hout
    simp only [RR.ok.injEq] at hout
    have hav : avail c' = [] := (List.take_eq_nil_iff.mp hout).resolve_left (by omega)
    have h0 : c'.consumed = 0 := hB.shape.1
    rw [avail, h0, List.drop_zero] at hav
    exact .of_adv (ha0.trans ha) (k3 hav)
  · rw [e]
    exact ⟨fun hf => Bool.noConfusion (hf.symm.trans h1), fun _ hout => absurd hout (hb.ne_ok [])⟩

/-! ## Interrupted errors are invisible: a clean end behind one -/

/-- `Ok(0)` is reported by the first read on a last-chunk (with its trailer section, if any) -/
theorem last_clean_end (last : LastS) (hl : last.WF Consts.chunkSizeLineLimit)
    (trail : List Item) (m n : Nat) :
    ((fresh (bytesI last.enc ++ trail)).read flatSrc m n).1 = .ok [] := by
  have hrep : Rep (fresh (bytesI last.enc ++ trail)) [] (bytesI last.enc ++ trail) := by
    have := rep_fresh [] (by simp) (bytesI last.enc ++ trail)
    simpa [encChunks, payloadOf, bytesI] using this
  exact (step_last _ last hl trail m n hrep).1

/-- `Ok(0)` is reported on `Interrupted, 0 CRLF CRLF`: the decoder does not see the error -/
theorem intr_then_last_clean_end (last : LastS) (hl : last.WF Consts.chunkSizeLineLimit)
    (trail : List Item) (m n : Nat) :
    ((fresh (.err 0 :: (bytesI last.enc ++ trail))).read flatSrc m n).1 = .ok [] := by
  exact (Chunked.read_flat_intr (fresh []).core _ m n).trans (last_clean_end last hl trail m n)

/-- three consecutive pieces of a list, recovered by their lengths -/
theorem split3 (pre line eol t : Bytes) :
    ((pre ++ line ++ eol ++ t).drop pre.length).take line.length = line ∧
    ((pre ++ line ++ eol ++ t).drop (pre.length + line.length)).take eol.length = eol := by
  constructor
  · simp [List.append_assoc]
  · rw [List.append_assoc, List.append_assoc, ← List.drop_drop]
    simp

/-! ## Why `0 < maxBuf` is needed for (U3) -/

/-- with `MAX_BUFFER_LEN = 0` the decoder would report `Ok(0)` right after the size line of a
    non-empty chunk (`buffer.resize(min(remaining, 0))`) -/
theorem maxbuf_zero_clean_end (sr ext : Bytes) (n : Nat) (Y : List Item) (hs : SizeOK sr ext n)
    (hn : n ≠ 0) (k : Nat) :
    ((fresh (bytesI (sr ++ ext ++ [13, 10]) ++ Y)).read flatSrc 0 k).1 = .ok [] := by
  have hc : (fresh (bytesI (sr ++ ext ++ [13, 10]) ++ Y)).buffer.length =
      (fresh (bytesI (sr ++ ext ++ [13, 10]) ++ Y)).consumed ∧
      ¬ ((fresh (bytesI (sr ++ ext ++ [13, 10]) ++ Y)).remaining = 0 ∧
        (fresh (bytesI (sr ++ ext ++ [13, 10]) ++ Y)).reachedEof) := by simp [fresh]
  have hrf : (fresh (bytesI (sr ++ ext ++ [13, 10]) ++ Y)).refill flatSrc 0 =
      (.ok (), { inner := Y, buffer := [], consumed := 0, remaining := n, reachedEof := false,
                 failed := false }) := by
    rw [refill_size_line _ sr ext n Y 0 hs rfl rfl]
    simp [Chunked.refillData, flatSrc_readExact, hn, fresh]
  rw [read_of_fillBuf _ _ _ _ k _ (fillBuf_refill_ok _ _ _ 0 rfl hc hrf (by simp))]
  simp [avail]

/-- the terminator holds two LFs -/
theorem TermT.two_lf {rest : List Item} (h : TermT rest) : 2 ≤ (bytesOf rest).count 10 := by
  obtain ⟨pre, line, trs, eol, post, ha, ⟨l, hst, _⟩, _, he⟩ := h
  rw [ha.bytesOf_eq]
  simp only [List.count_append]
  have h1 : 1 ≤ line.count 10 := List.one_le_count_iff.mpr (stripEol_some_mem _ _ hst)
  have h2 : 1 ≤ eol.count 10 := by
    rcases he with rfl | rfl <;> decide
  omega

end Atto
