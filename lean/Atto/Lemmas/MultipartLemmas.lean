/-
  Atto/Lemmas/MultipartLemmas.lean — helper lemmas for property C15 (multipart/form-data):
  `boundary()`, the copy loop, substring search, and the round trip through the independent decoder
  of Atto/Spec/MultipartSpec.lean.
-/
import Atto.Model.Multipart
import Atto.Spec.MultipartSpec
import Atto.Lemmas.Str
import Atto.Lemmas.ListFacts
namespace Atto

/-! ### `boundary()` -/

theorem mpBoundaryOf_close (b : Bytes) : mpBoundaryOf (mpDelim b ++ [45, 45]) = .ok b := by
  have hl : ¬ (mpDelim b ++ [45, 45]).length < 6 := by simp [mpDelim]
  rw [mpBoundaryOf, if_neg hl]
  simp [mpDelim]

/-! ### the copy loop -/

theorem copyPieces_nil (n fuel : Nat) : copyPieces n fuel [] = [] := by
  cases fuel <;> simp [copyPieces]

theorem copyPieces_succ {n fuel : Nat} {bs : Bytes} (h : bs ≠ []) :
    copyPieces n (fuel + 1) bs = bs.take n :: copyPieces n fuel (bs.drop n) := by
  rw [copyPieces, if_neg h]

/-- with enough fuel the loop stops only when the input is used up -/
theorem copyPieces_eq_nil {n fuel : Nat} {bs : Bytes} (hf : bs.length + 1 ≤ fuel) :
    copyPieces n fuel bs = [] ↔ bs = [] := by
  cases fuel with
  | zero => omega
  | succ fuel =>
    by_cases h : bs = []
    · simp [h, copyPieces_nil]
    · simp [h, copyPieces_succ h]

/-! ### substring search -/

theorem mpSplitAt_cons_pos {pat : Bytes} {x : UInt8} {xs : Bytes} (h : pat <+: x :: xs) :
    mpSplitAt pat (x :: xs) = some ([], (x :: xs).drop pat.length) := by
  rw [mpSplitAt, if_pos (List.isPrefixOf_iff_prefix.mpr h)]

theorem mpSplitAt_cons_neg {pat : Bytes} {x : UInt8} {xs : Bytes} (h : ¬ pat <+: x :: xs) :
    mpSplitAt pat (x :: xs) = (mpSplitAt pat xs).map (fun p => (x :: p.1, p.2)) := by
  rw [mpSplitAt, if_neg (mt List.isPrefixOf_iff_prefix.mp h)]

/-- `occursIn` decides `List.IsInfix`: what is needed about "occurs in" are core's lemmas on `<:+:`. -/
theorem occursIn_iff_infix {pat s : Bytes} : occursIn pat s = true ↔ pat <:+: s := by
  induction s with
  | nil => by_cases h : pat = [] <;> simp [occursIn, mpSplitAt, h]
  | cons x xs ih =>
    rw [List.infix_cons_iff, ← ih, ← List.isPrefixOf_iff_prefix]
    by_cases h : pat.isPrefixOf (x :: xs) = true <;> simp [occursIn, mpSplitAt, h]

theorem mpSplitAt_some {pat : Bytes} : ∀ {s a c : Bytes}, mpSplitAt pat s = some (a, c) →
    s = a ++ pat ++ c
  | [], a, c, h => by
    by_cases hp : pat = []
    · simp [mpSplitAt, hp] at h
      simp [h.1, h.2, hp]
    · simp [mpSplitAt, hp] at h
  | x :: xs, a, c, h => by
    by_cases hp : pat <+: x :: xs
    · rw [mpSplitAt_cons_pos hp] at h
      cases h
      obtain ⟨t, ht⟩ := hp
      simp [← ht]
    · rw [mpSplitAt_cons_neg hp] at h
      obtain ⟨⟨a', c'⟩, hr, he⟩ := Option.map_eq_some_iff.mp h
      cases he
      simp [mpSplitAt_some hr]

/-- A pattern whose first byte does not recur in it cannot overlap itself: if it does not occur in
    `d`, then its first occurrence in `d ++ pat ++ rest` is the one after `d`. -/
theorem mpSplitAt_first {c : UInt8} {pt : Bytes} (hc : c ∉ pt) :
    ∀ (d rest : Bytes), ¬ c :: pt <:+: d →
      mpSplitAt (c :: pt) (d ++ (c :: pt) ++ rest) = some (d, rest)
  | [], rest, _ => by
    rw [List.nil_append, List.cons_append, mpSplitAt_cons_pos (List.prefix_append _ _)]
    simp
  | x :: d, rest, hno => by
    rw [List.infix_cons_iff, not_or] at hno
    have hnp : ¬ c :: pt <+: x :: (d ++ (c :: pt) ++ rest) := fun hp =>
      -- an occurrence starting at `x` would, `c` not being in `pt`, end before the `c` after `d`
      have hp := List.cons_prefix_cons.mp hp
      hno.1 (List.cons_prefix_cons.mpr
        ⟨hp.1, prefix_of_prefix_append_cons (by simpa using hp.2) hc⟩)
    rw [List.cons_append, List.cons_append, mpSplitAt_cons_neg hnp, mpSplitAt_first hc d rest hno.2]
    rfl

theorem mpSplitAt_crlf (l r : Bytes) (h : (13 : UInt8) ∉ l) :
    mpSplitAt [13, 10] (l ++ 13 :: 10 :: r) = some (l, r) := by
  simpa using mpSplitAt_first (c := 13) (pt := [10]) (by decide) l r
    (fun hi => h (hi.subset (by simp)))

/-! ### the round trip through the independent decoder -/

/-! #### constants -/

theorem mp_c_cd : str "\r\nContent-Disposition: form-data; name=\"" =
    [13, 10] ++ (str "Content-Disposition:" ++ 32 :: str "form-data; name=\"") := by
  simp only [str_data]; decide +kernel
theorem mp_c_ct : str "\r\nContent-Type: " = [13, 10] ++ (str "Content-Type:" ++ [32]) := by
  simp only [str_data]; decide +kernel
theorem mp_c_q4 : str "\"\r\n\r\n" = [34, 13, 10, 13, 10] := by decide +kernel
theorem mp_c_q : str "\"" = [34] := by decide +kernel
theorem mp_c_4 : str "\r\n\r\n" = [13, 10, 13, 10] := by decide +kernel
theorem mp_c_fd_head : str "form-data; name=\"" = 102 :: str "orm-data; name=\"" := by
  simp only [str_data]; decide +kernel
theorem mp_c_cdh_lower : lowerBytes (str "Content-Disposition:") = str "content-disposition" ++ [58] := by
  simp only [str_data]; decide +kernel
theorem mp_c_cth_lower : lowerBytes (str "Content-Type:") = str "content-type" ++ [58] := by
  simp only [str_data]; decide +kernel
theorem mp_c_cdh_not_ct :
    ¬ lowerBytes ((str "Content-Disposition:").take ((str "content-type").length + 1)) =
      str "content-type" ++ [58] := by
  simp only [str_data]; decide +kernel
/-- no literal of a part's header lines has a CR in it -/
theorem mp_c_no13 : (13 : UInt8) ∉ str "Content-Disposition:" ∧ (13 : UInt8) ∉ str "Content-Type:" ∧
    (13 : UInt8) ∉ str "form-data; name=\"" ∧ (13 : UInt8) ∉ str "; filename=\"" := by
  simp only [str_data]; decide +kernel

/-! #### the canonical encoding of a part -/

def mp_cdValue (p : Part) : Bytes :=
  str "form-data; name=\"" ++ p.name ++ [34] ++
    (match p.filename with
     | some fn => str "; filename=\"" ++ fn ++ [34]
     | none => [])

def mp_cdLine (p : Part) : Bytes := str "Content-Disposition:" ++ 32 :: mp_cdValue p

def mp_ctLine (m : Bytes) : Bytes := str "Content-Type:" ++ 32 :: m

def mp_lines (p : Part) : List Bytes :=
  mp_cdLine p :: (match p.contentType with
    | some m => [mp_ctLine m]
    | none => [])

/-- what follows the delimiter: CRLF, the header lines, the empty line, the data -/
def mp_block (p : Part) : Bytes :=
  [13, 10] ++ ((mp_lines p).map (· ++ [13, 10])).flatten ++ [13, 10] ++ p.data

/-- what follows the first delimiter of a body carrying the parts `ps` -/
def mp_tail (delim : Bytes) : List Part → Bytes
  | [] => [45, 45]
  | p :: ps => mp_block p ++ delim ++ mp_tail delim ps

theorem mp_text_block (b : Bytes) (t : Bytes × Bytes) :
    mpText b t = mpDelim b ++ mp_block ⟨t.1, none, none, t.2⟩ := by
  simp [mpText, mp_block, mp_lines, mp_cdLine, mp_cdValue, mp_c_cd, mp_c_q4]

theorem mp_file_block (b : Bytes) (f : MFile) :
    mpFileHeader b f ++ f.data =
      mpDelim b ++ mp_block ⟨f.name, f.filename, some (f.mime.getD (str "application/octet-stream")), f.data⟩ := by
  cases hf : f.filename <;>
    simp [mpFileHeader, mp_block, mp_lines, mp_cdLine, mp_cdValue, mp_ctLine, mp_c_cd, mp_c_ct,
      mp_c_4, mp_c_q, hf]

/-- the delimiter in front of every block and once more at the end is the delimiter once in front
    and then behind every block -/
theorem mp_tail_shift (d : Bytes) : ∀ ps : List Part,
    (ps.map (fun p => d ++ mp_block p)).flatten ++ (d ++ [45, 45]) = d ++ mp_tail d ps
  | [] => rfl
  | p :: ps => by
    simp only [List.map_cons, List.flatten_cons, mp_tail, List.append_assoc, mp_tail_shift d ps]

/-! #### line splitting -/

/-- the delimiter starts with a CR that does not recur in it, so it cannot overlap itself -/
theorem mpSplitAt_delim {b : Bytes} (hb : (13 : UInt8) ∉ b) {d : Bytes} (rest : Bytes)
    (h : occursIn (mpDelim b) d = false) :
    mpSplitAt (mpDelim b) (d ++ (mpDelim b ++ rest)) = some (d, rest) := by
  rw [← List.append_assoc]
  exact mpSplitAt_first (c := 13) (by simp [hb]) d rest
    (fun hi => by rw [(occursIn_iff_infix (pat := mpDelim b)).mpr hi] at h; cases h)

/-- any fuel that covers the input will do: each line uses up at least its CRLF -/
theorem mpHeaderLines_join (rest : Bytes) : ∀ (lines : List Bytes) (fuel : Nat),
    (∀ l ∈ lines, l ≠ [] ∧ (13 : UInt8) ∉ l) →
    ((lines.map (· ++ [13, 10])).flatten ++ 13 :: 10 :: rest).length ≤ fuel →
    mpHeaderLines fuel ((lines.map (· ++ [13, 10])).flatten ++ 13 :: 10 :: rest) = some (lines, rest) := by
  intro lines
  induction lines with
  | nil =>
    intro fuel _ hf
    cases fuel with
    | zero => simp at hf
    | succ fuel =>
      have := mpSplitAt_crlf [] rest (by simp)
      simp only [List.nil_append] at this
      simp [mpHeaderLines, this]
  | cons l ls ih =>
    intro fuel hl hf
    have h1 := hl l (by simp)
    simp only [List.map_cons, List.flatten_cons, List.append_assoc, List.cons_append, List.nil_append,
      List.length_append, List.length_cons] at hf ⊢
    cases fuel with
    | zero => omega
    | succ fuel =>
      rw [mpHeaderLines, mpSplitAt_crlf l _ h1.2]
      simp only [h1.1, if_false]
      rw [ih fuel (fun x hx => hl x (by simp [hx]))
        (by simp only [List.length_append, List.length_cons]; omega)]
      rfl

/-! #### header fields -/

theorem mpQuoted_append (n r : Bytes) (h : (34 : UInt8) ∉ n) : mpQuoted (n ++ 34 :: r) = some (n, r) := by
  have hp : ∀ a ∈ n, (a != 34) = true := fun a ha => bne_iff_ne.mpr fun e => h (e ▸ ha)
  simp [mpQuoted, List.dropWhile_append_of_pos hp, List.takeWhile_append_of_pos hp]

theorem mpExpect_append (p s : Bytes) : mpExpect p (p ++ s) = some s := by
  unfold mpExpect
  have : p.isPrefixOf (p ++ s) = true := List.isPrefixOf_iff_prefix.mpr ⟨s, rfl⟩
  simp [this]

theorem mpDisposition_cdValue (p : Part) (hn : (34 : UInt8) ∉ p.name)
    (hf : ∀ fn, p.filename = some fn → (34 : UInt8) ∉ fn) :
    mpDisposition (mp_cdValue p) = some (p.name, p.filename) := by
  cases hfn : p.filename with
  | none =>
    simp only [mpDisposition, mp_cdValue, hfn, List.append_assoc, List.append_nil, mpExpect_append,
      mpQuoted_append _ _ hn, if_true]
  | some fn =>
    have hne : ¬ str "; filename=\"" ++ (fn ++ [34]) = [] := by simp
    simp only [mpDisposition, mp_cdValue, hfn, List.append_assoc, List.cons_append, List.nil_append,
      mpExpect_append, mpQuoted_append _ _ hn, hne, if_false, mpQuoted_append _ _ (hf fn hfn), if_true]

theorem dropWhile_ows (m : Bytes) (h1 : m.head? ≠ some 32) (h2 : m.head? ≠ some 9) :
    (32 :: m).dropWhile (fun c => c == 32 || c == 9) = m := by
  cases m with
  | nil => simp
  | cons x xs =>
    have hx1 : ¬ x = 32 := fun e => h1 (by simp [e])
    have hx2 : ¬ x = 9 := fun e => h2 (by simp [e])
    simp [hx1, hx2]

theorem mpFieldValue_line {lname hdr : Bytes} (h : lowerBytes hdr = lname ++ [58]) (v : Bytes)
    (h1 : v.head? ≠ some 32) (h2 : v.head? ≠ some 9) :
    mpFieldValue lname (hdr ++ 32 :: v) = some v := by
  have hl : hdr.length = lname.length + 1 := by
    simpa [lowerBytes] using congrArg List.length h
  rw [mpFieldValue, ← hl, List.take_left, List.drop_left, h, if_pos rfl, dropWhile_ows v h1 h2]

theorem mpFieldValue_cd (p : Part) :
    mpFieldValue (str "content-disposition") (mp_cdLine p) = some (mp_cdValue p) :=
  mpFieldValue_line mp_c_cdh_lower _ (by simp [mp_cdValue, mp_c_fd_head])
    (by simp [mp_cdValue, mp_c_fd_head])

theorem mpFieldValue_ct_cd (p : Part) : mpFieldValue (str "content-type") (mp_cdLine p) = none := by
  have hle : (str "content-type").length + 1 ≤ (str "Content-Disposition:").length := by
    decide +kernel
  rw [mpFieldValue, mp_cdLine, List.take_append_of_le_length hle, if_neg mp_c_cdh_not_ct]

theorem mpFieldValue_ct (m : Bytes) (h1 : m.head? ≠ some 32) (h2 : m.head? ≠ some 9) :
    mpFieldValue (str "content-type") (mp_ctLine m) = some m :=
  mpFieldValue_line mp_c_cth_lower m h1 h2

/-! #### one part, all parts -/

/-- what the round trip needs of a part -/
structure mp_Good (b : Bytes) (p : Part) : Prop where
  name : (34 : UInt8) ∉ p.name ∧ (13 : UInt8) ∉ p.name
  fn : ∀ fn, p.filename = some fn → (34 : UInt8) ∉ fn ∧ (13 : UInt8) ∉ fn
  ct : ∀ m, p.contentType = some m → (13 : UInt8) ∉ m ∧ m.head? ≠ some 32 ∧ m.head? ≠ some 9
  data : occursIn (mpDelim b) p.data = false

theorem mp_lines_ok (b : Bytes) (p : Part) (hg : mp_Good b p) :
    ∀ l ∈ mp_lines p, l ≠ [] ∧ (13 : UInt8) ∉ l := by
  have hcd : mp_cdLine p ≠ [] ∧ (13 : UInt8) ∉ mp_cdLine p := by
    cases hfn : p.filename with
    | none => simp [mp_cdLine, mp_cdValue, hfn, mp_c_no13, hg.name.2]
    | some fn =>
      simp [mp_cdLine, mp_cdValue, hfn, mp_c_no13, hg.name.2,
        (hg.fn fn hfn).2]
  cases hct : p.contentType with
  | none => simpa [mp_lines, hct] using hcd
  | some m => simpa [mp_lines, hct, mp_ctLine, mp_c_no13, (hg.ct m hct).1] using hcd

theorem mpField_cd (p : Part) : mpField (str "content-disposition") (mp_lines p) = some (mp_cdValue p) := by
  simp [mpField, mp_lines, mpFieldValue_cd]

theorem mpField_ct (b : Bytes) (p : Part) (hg : mp_Good b p) :
    mpField (str "content-type") (mp_lines p) = p.contentType := by
  unfold mpField mp_lines
  cases hct : p.contentType with
  | none => simp [mpFieldValue_ct_cd]
  | some m =>
    have h := hg.ct m hct
    simp [mpFieldValue_ct_cd, mpFieldValue_ct m h.2.1 h.2.2]

/-- one part: header lines, a `Content-Disposition` among them, data up to the delimiter -/
theorem mpParts_part {delim inp rest data after name : Bytes} {lines : List Bytes}
    {filename : Option Bytes} (fuel : Nat)
    (h1 : mpHeaderLines (inp.length + 2) inp = some (lines, rest))
    (h2 : (mpField (str "content-disposition") lines).bind mpDisposition = some (name, filename))
    (h3 : mpSplitAt delim rest = some (data, after)) :
    mpParts delim (fuel + 1) (13 :: 10 :: inp) = (mpParts delim fuel after).map
      ({ name := name, filename := filename, contentType := mpField (str "content-type") lines,
         data := data } :: ·) := by
  have hne : ¬ ([13, 10] : Bytes) = [45, 45] := by decide
  rw [mpParts]
  simp only [List.take_succ_cons, List.take_zero, List.drop_succ_cons, List.drop_zero, hne, if_false,
    if_true, List.length_cons, h1, h2, h3]

/-- one step of the decoder: a well-formed part in canonical form, the delimiter, anything -/
theorem mpParts_block {b : Bytes} (hb : (13 : UInt8) ∉ b) {p : Part} (hg : mp_Good b p)
    (fuel : Nat) (after : Bytes) :
    mpParts (mpDelim b) (fuel + 1) (mp_block p ++ (mpDelim b ++ after)) =
      (mpParts (mpDelim b) fuel after).map (p :: ·) := by
  simp only [mp_block, List.append_assoc, List.cons_append, List.nil_append]
  -- `rw`, not `simp only`: next to a `str` literal the casts of `simp` are dear to the kernel
  rw [mpParts_part fuel (mpHeaderLines_join _ _ _ (mp_lines_ok b p hg) (Nat.le_add_right _ 2))
    (by rw [mpField_cd, Option.bind_some, mpDisposition_cdValue p hg.name.1 (fun fn h => (hg.fn fn h).1)])
    (mpSplitAt_delim hb after hg.data), mpField_ct b p hg]

theorem mpParts_tail {b : Bytes} (hb : (13 : UInt8) ∉ b) : ∀ (ps : List Part) (fuel : Nat),
    (∀ p ∈ ps, mp_Good b p) → (mp_tail (mpDelim b) ps).length ≤ fuel →
    mpParts (mpDelim b) fuel (mp_tail (mpDelim b) ps) = some ps := by
  intro ps
  induction ps with
  | nil =>
    intro fuel _ hf
    cases fuel with
    | zero => simp [mp_tail] at hf
    | succ fuel => simp [mp_tail, mpParts]
  | cons p ps ih =>
    intro fuel hg hf
    simp only [mp_tail, List.append_assoc, List.length_append] at hf ⊢
    have : 2 ≤ (mp_block p).length := by simp [mp_block]
    cases fuel with
    | zero => omega
    | succ fuel =>
      rw [mpParts_block hb (hg p (by simp)), ih fuel (fun q hq => hg q (by simp [hq])) (by omega)]
      rfl

theorem mp_decode_tail (b : Bytes) (hb : (13 : UInt8) ∉ b) (ps : List Part)
    (hg : ∀ p ∈ ps, mp_Good b p) :
    decodeMultipart b (mpDelim b ++ mp_tail (mpDelim b) ps) = some ps := by
  have hp : (mpDelim b).isPrefixOf (mpDelim b ++ mp_tail (mpDelim b) ps) = true :=
    List.isPrefixOf_iff_prefix.mpr ⟨_, rfl⟩
  have e : ([13, 10] ++ ([45, 45] ++ b) : Bytes) = mpDelim b := rfl
  simp only [decodeMultipart, e, hp, if_true, List.drop_left]
  exact mpParts_tail hb ps _ hg (by simp only [List.length_append]; omega)

end Atto
