/-
  Atto/Lemmas/SettingsRefine.lean — simulation between the `Arc`-cell machine `Heap` and the
  by-value specification machine `Val` of Atto/Model/Settings.lean (used by Props/C16.lean).

  `st_R` is read as three independent parts: the session table and the builder table, each a table of
  handles into the cells that represents a table of owned values (`st_T`), and the reference counts
  (`st_RC`). A table cannot see a change of the cells that leaves alone the value of every cell it points
  to (`st_T.frame`); every transition is then a frame for both tables, one move of the touched table and
  one move of the counts.

  After the simulation: locality in the specification machine — what one operation does to the value owned
  by one session / builder (`SOp.actS`, `SOp.actB`, `st_val_sess_step`, `st_val_bld_step`), and so what a
  history does to it (`st_val_sess_exec`, `st_val_bld_exec`); what the two observations show (`st_viewS`,
  `st_viewB`).
-/
import Atto.Model.Settings
namespace Atto

/-! ### `getAt` / `setAt` -/

theorem st_getAt_lt {α} {l : List (Option α)} {i : Nat} {x : α} (h : getAt l i = some x) :
    i < l.length :=
  (List.getElem?_eq_some_iff.1 (Option.join_eq_some_iff.mp h)).1

theorem st_getAt_ge {α} {l : List (Option α)} {i : Nat} (h : l.length ≤ i) : getAt l i = none := by
  unfold getAt
  rw [List.getElem?_eq_none h]; rfl

theorem st_getAt_map {α β} (f : α → β) (l : List (Option α)) (i : Nat) :
    getAt (l.map (Option.map f)) i = (getAt l i).map f := by
  unfold getAt
  rw [List.getElem?_map, Option.join_map_eq_map_join]

theorem st_getAt_append {α} (l : List (Option α)) (x : Option α) (i : Nat) :
    getAt (l ++ [x]) i = if i < l.length then getAt l i else if i = l.length then x else none := by
  unfold getAt
  split
  · rename_i h; rw [List.getElem?_append_left h]
  · rename_i h
    split
    · rename_i h2; subst h2; simp
    · rename_i h2
      rw [List.getElem?_eq_none (by simp; omega)]; rfl

theorem st_getAt_append_last {α} (l : List (Option α)) (x : Option α) : getAt (l ++ [x]) l.length = x := by
  rw [st_getAt_append]; simp

theorem st_setAt_length {α} (l : List (Option α)) (i : Nat) (x : Option α) :
    (setAt l i x).length = l.length := by
  unfold setAt; split <;> simp

theorem st_getAt_setAt {α} (l : List (Option α)) (i j : Nat) (x : Option α) :
    getAt (setAt l i x) j = if j = i ∧ i < l.length then x else getAt l j := by
  unfold getAt setAt
  by_cases hi : i < l.length
  · simp only [hi, if_true, and_true]
    rw [List.getElem?_set]
    by_cases hj : i = j
    · subst hj; simp [hi]
    · have : ¬ j = i := fun e => hj e.symm
      simp [hj, this]
  · simp [hi]

theorem st_getAt_setAt_self {α} {l : List (Option α)} {i : Nat} {y : α} (x : Option α)
    (h : getAt l i = some y) : getAt (setAt l i x) i = x := by
  rw [st_getAt_setAt]; simp [st_getAt_lt h]

theorem st_getAt_setAt_ne {α} (l : List (Option α)) {i j : Nat} (x : Option α) (h : j ≠ i) :
    getAt (setAt l i x) j = getAt l j := by
  rw [st_getAt_setAt]; simp [h]

/-- reading an allocated slot after a write -/
theorem st_getAt_setAt_lt {α} {l : List (Option α)} {j : Nat} (hj : j < l.length) (i : Nat) (x : Option α) :
    getAt (setAt l i x) j = if i = j then x else getAt l j := by
  rw [st_getAt_setAt]
  by_cases e : i = j
  · subst e; simp [hj]
  · rw [if_neg e, if_neg (fun h => e h.1.symm)]

/-- writing back what is there changes nothing (covers `none` on a dead slot, too) -/
theorem st_setAt_getAt {α} (l : List (Option α)) (i : Nat) : setAt l i (getAt l i) = l := by
  unfold setAt getAt
  split
  · rename_i h; simp [h]
  · rfl

theorem st_setAt_same {α} {l : List (Option α)} {i : Nat} {x : α} (hi : getAt l i = some x) :
    setAt l i (some x) = l := hi ▸ st_setAt_getAt l i

/-! ### counting the handles that point to an address -/

/-- number of live entries of a pointer table that are equal to `p` -/
def st_cnt : List (Option Nat) → Nat → Nat
  | [], _ => 0
  | x :: l, p => (if x = some p then 1 else 0) + st_cnt l p

def st_ptrs (l : List (Option HBuilder)) : List (Option Nat) := l.map (Option.map HBuilder.ptr)

theorem st_cnt_append (l : List (Option Nat)) (x : Option Nat) (p : Nat) :
    st_cnt (l ++ [x]) p = st_cnt l p + (if x = some p then 1 else 0) := by
  induction l with
  | nil => simp [st_cnt]
  | cons y l ih => simp only [List.cons_append, st_cnt, ih]; omega

theorem st_cnt_set (l : List (Option Nat)) (i : Nat) (x : Option Nat) (p : Nat) (hi : i < l.length) :
    st_cnt (l.set i x) p + (if l[i]? = some (some p) then 1 else 0)
      = st_cnt l p + (if x = some p then 1 else 0) := by
  induction l generalizing i with
  | nil => simp at hi
  | cons y l ih =>
    cases i with
    | zero =>
      simp only [List.set_cons_zero, st_cnt, List.getElem?_cons_zero, Option.some.injEq]
      omega
    | succ i =>
      have := ih i (by simpa using hi)
      simp only [List.set_cons_succ, st_cnt, List.getElem?_cons_succ]
      omega

theorem st_cnt_setAt {l : List (Option Nat)} {i : Nat} {q : Nat} (x : Option Nat) (p : Nat)
    (h : getAt l i = some q) :
    st_cnt (setAt l i x) p + (if q = p then 1 else 0) = st_cnt l p + (if x = some p then 1 else 0) := by
  have hi := st_getAt_lt h
  have h2 : l[i]? = some (some q) := Option.join_eq_some_iff.mp h
  have := st_cnt_set l i x p hi
  unfold setAt
  simp only [hi, if_true]
  simp only [h2, Option.some.injEq] at this
  exact this

theorem st_cnt_pos {l : List (Option Nat)} {i p : Nat} (h : getAt l i = some p) : 1 ≤ st_cnt l p := by
  have := st_cnt_setAt none p h
  simp at this; omega

/-- two different live entries with the same pointer count at least twice -/
theorem st_cnt_two {l : List (Option Nat)} {i j p : Nat} (hi : getAt l i = some p)
    (hj : getAt l j = some p) (hne : j ≠ i) : 2 ≤ st_cnt l p := by
  have h1 := st_cnt_setAt none p hi
  have h2 : getAt (setAt l i none) j = some p := by rw [st_getAt_setAt_ne _ _ hne]; exact hj
  have h3 := st_cnt_pos h2
  simp at h1; omega

theorem st_cnt_zero {l : List (Option Nat)} {p : Nat} (h : ∀ i q, getAt l i = some q → q ≠ p) :
    st_cnt l p = 0 := by
  induction l with
  | nil => rfl
  | cons y l ih =>
    have h0 : y ≠ some p := by
      intro e; subst e
      exact h 0 p (by simp [getAt]) rfl
    have : st_cnt l p = 0 := ih (fun i q hq => h (i + 1) q (by simpa [getAt] using hq))
    simp [st_cnt, h0, this]

theorem st_ptrs_at {l : List (Option HBuilder)} {i : Nat} {b : HBuilder} (hb : getAt l i = some b) :
    getAt (st_ptrs l) i = some b.ptr := by rw [st_ptrs, st_getAt_map, hb]; rfl

theorem st_ptrs_setAt (l : List (Option HBuilder)) (i : Nat) (x : Option HBuilder) :
    st_ptrs (setAt l i x) = setAt (st_ptrs l) i (x.map HBuilder.ptr) := by
  unfold setAt st_ptrs
  simp only [List.length_map]
  split
  · rw [List.map_set]
  · rfl

theorem st_ptrs_append (l : List (Option HBuilder)) (x : Option HBuilder) :
    st_ptrs (l ++ [x]) = st_ptrs l ++ [x.map HBuilder.ptr] := by
  simp [st_ptrs]

/-! ### the simulation relation -/

/-- `st_R h w`: the `Arc` heap `h` represents the by-value world `w`.
    * the session / builder tables have the same lengths and the same live entries;
    * the cell a live handle points to exists and holds the value the specification gives that handle
      (builders also have the same own header map);
    * every cell's reference count is the number of live handles (sessions + builders) that point to
      it — so `rc = 1` means that nobody else can see the cell. -/
structure st_R (h : Heap) (w : Val) : Prop where
  slen : h.sessions.length = w.sessions.length
  blen : h.builders.length = w.builders.length
  sessLive : ∀ i p, getAt h.sessions i = some p →
    p < h.cells.length ∧ getAt w.sessions i = (h.cells[p]?).map Cell.val
  sessDead : ∀ i, getAt h.sessions i = none → getAt w.sessions i = none
  bldLive : ∀ i b, getAt h.builders i = some b →
    b.ptr < h.cells.length ∧
      getAt w.builders i = (h.cells[b.ptr]?).map (fun c => ⟨c.val, b.headers⟩)
  bldDead : ∀ i, getAt h.builders i = none → getAt w.builders i = none
  rc : ∀ p c, h.cells[p]? = some c → c.rc = st_cnt h.sessions p + st_cnt (st_ptrs h.builders) p

theorem st_R_init : st_R {} {} := by
  constructor <;> simp [getAt, st_cnt, st_ptrs]

/-- what `Arc::make_mut` does to the heap -/
theorem st_makeMut_cases (h : Heap) (p : Nat) (f : BaseSettings → BaseSettings) {c : Cell}
    (hc : h.cells[p]? = some c) :
    (c.rc = 1 ∧ h.makeMut p f = ({ h with cells := h.cells.set p { c with val := f c.val } }, p)) ∨
    (c.rc ≠ 1 ∧ h.makeMut p f =
      ({ h with cells := h.cells.set p { c with rc := c.rc - 1 } ++ [⟨f c.val, 1⟩] }, h.cells.length)) := by
  unfold Heap.makeMut Heap.decr
  simp only [hc]
  by_cases h1 : c.rc = 1
  · left; simp [h1]
  · right; simp [h1]

/-! ### one table of handles -/

/-- table `hs` of handles into `cells` represents table `vs` of owned values: handle `g` points to cell
    `ptr g` and stands for `mk (value of that cell) g`. Sessions: `ptr p = p`, `mk v _ = v`;
    builders: `ptr = HBuilder.ptr`, `mk v b = ⟨v, b.headers⟩`. -/
structure st_T {γ α} (ptr : γ → Nat) (mk : BaseSettings → γ → α) (cells : List Cell)
    (hs : List (Option γ)) (vs : List (Option α)) : Prop where
  len : hs.length = vs.length
  live : ∀ i g, getAt hs i = some g →
    ptr g < cells.length ∧ getAt vs i = (cells[ptr g]?).map fun c => mk c.val g
  dead : ∀ i, getAt hs i = none → getAt vs i = none

section
variable {γ α : Type} {ptr : γ → Nat} {mk : BaseSettings → γ → α} {cells cells' : List Cell}
  {hs : List (Option γ)} {vs : List (Option α)} {T U : List (Option Nat)} {h : Heap} {w : Val}

/-- frame: the cells may change in any way that no handle of the table can see -/
theorem st_T.frame (t : st_T ptr mk cells hs vs) (hl : cells.length ≤ cells'.length)
    (ha : ∀ i g, getAt hs i = some g → (cells'[ptr g]?).map Cell.val = (cells[ptr g]?).map Cell.val) :
    st_T ptr mk cells' hs vs :=
  ⟨t.len, fun i g hg => ⟨Nat.lt_of_lt_of_le (t.live i g hg).1 hl, by
    have := congrArg (Option.map fun v => mk v g) (ha i g hg)
    simpa [(t.live i g hg).2, Function.comp_def] using this.symm⟩, t.dead⟩

/-- the two value clauses as one equation -/
theorem st_T.view (t : st_T ptr mk cells hs vs) (i : Nat) :
    getAt vs i = (getAt hs i).bind fun g => (cells[ptr g]?).map fun c => mk c.val g := by
  cases hg : getAt hs i with
  | none => exact t.dead i hg
  | some g => exact (t.live i g hg).2

theorem st_T.of_view (len : hs.length = vs.length)
    (inr : ∀ i g, getAt hs i = some g → ptr g < cells.length)
    (view : ∀ i, getAt vs i = (getAt hs i).bind fun g => (cells[ptr g]?).map fun c => mk c.val g) :
    st_T ptr mk cells hs vs :=
  ⟨len, fun i g hg => ⟨inr i g hg, by rw [view, hg]; rfl⟩, fun i hg => by rw [view, hg]; rfl⟩

/-- slot `i` is dead on both sides, or live on both: its cell exists and holds the value shown -/
theorem st_T.cases (t : st_T ptr mk cells hs vs) (i : Nat) :
    (getAt hs i = none ∧ getAt vs i = none) ∨
    ∃ g c, getAt hs i = some g ∧ cells[ptr g]? = some c ∧ getAt vs i = some (mk c.val g) := by
  cases hg : getAt hs i with
  | none => exact .inl ⟨rfl, t.dead i hg⟩
  | some g =>
    obtain ⟨hlt, hv⟩ := t.live i g hg
    exact .inr ⟨g, cells[ptr g], rfl, List.getElem?_eq_getElem hlt, by rw [hv, List.getElem?_eq_getElem hlt]; rfl⟩

theorem st_T.isSome_eq (t : st_T ptr mk cells hs vs) (i : Nat) :
    (getAt hs i).isSome = (getAt vs i).isSome := by
  rcases t.cases i with ⟨h1, h2⟩ | ⟨g, c, h1, _, h2⟩ <;> rw [h1, h2] <;> rfl

/-- a new handle at the end of the table -/
theorem st_T.push (t : st_T ptr mk cells hs vs) {g : γ} {c : Cell} (hc : cells[ptr g]? = some c) :
    st_T ptr mk cells (hs ++ [some g]) (vs ++ [some (mk c.val g)]) := by
  refine .of_view (by simp [t.len]) (fun i g' hg' => ?_) fun i => ?_
  · rw [st_getAt_append] at hg'
    split at hg'
    · exact (t.live i g' hg').1
    · split at hg'
      · cases hg'; exact (List.getElem?_eq_some_iff.1 hc).1
      · cases hg'
  · rw [st_getAt_append, st_getAt_append, t.len, t.view i]
    split
    · rfl
    · split
      · simp [hc]
      · rfl

/-- slot `i` is given to `x` (`none`: cleared) -/
theorem st_T.set (t : st_T ptr mk cells hs vs) (i : Nat) (x : Option γ)
    (hx : ∀ g, x = some g → ptr g < cells.length) :
    st_T ptr mk cells (setAt hs i x)
      (setAt vs i (x.bind fun g => (cells[ptr g]?).map fun c => mk c.val g)) := by
  refine .of_view (by simp [st_setAt_length, t.len]) (fun j g' hg' => ?_) fun j => ?_
  · rw [st_getAt_setAt] at hg'
    split at hg'
    · exact hx g' hg'
    · exact (t.live j g' hg').1
  · rw [st_getAt_setAt, st_getAt_setAt, t.len, t.view j]
    split <;> rfl

/-- slot `i` is re-pointed to `g` -/
theorem st_T.put (t : st_T ptr mk cells hs vs) (i : Nat) {g : γ} {c : Cell} (hc : cells[ptr g]? = some c) :
    st_T ptr mk cells (setAt hs i (some g)) (setAt vs i (some (mk c.val g))) := by
  have := t.set i (some g) (fun _ e => by cases e; exact (List.getElem?_eq_some_iff.1 hc).1)
  simpa [hc] using this

/-- slot `i` is cleared -/
theorem st_T.clear (t : st_T ptr mk cells hs vs) (i : Nat) :
    st_T ptr mk cells (setAt hs i none) (setAt vs i none) :=
  t.set i none nofun

/-- the value of the cell behind slot `i` is overwritten, and no other slot points there -/
theorem st_T.write (t : st_T ptr mk cells hs vs) {i : Nat} {g : γ} {c : Cell} (hi : getAt hs i = some g)
    (hc : cells[ptr g]? = some c) (hu : ∀ j g', j ≠ i → getAt hs j = some g' → ptr g' ≠ ptr g)
    (v : BaseSettings) :
    st_T ptr mk (cells.set (ptr g) { c with val := v }) hs (setAt vs i (some (mk v g))) := by
  have hp := (List.getElem?_eq_some_iff.1 hc).1
  refine .of_view (by simp [st_setAt_length, t.len]) (fun j g' hg' => by simpa using (t.live j g' hg').1)
    fun j => ?_
  rw [st_getAt_setAt, ← t.len]
  by_cases e : j = i
  · subst e; simp [st_getAt_lt hi, hi, hp]
  · rw [if_neg (fun h => e h.1), t.view j]
    cases hg : getAt hs j with
    | none => rfl
    | some g' => simp [List.getElem?_set_ne (hu j g' e hg).symm]
theorem st_T.frame_append (t : st_T ptr mk cells hs vs) (x : Cell) : st_T ptr mk (cells ++ [x]) hs vs :=
  t.frame (by simp) fun i g hg => by rw [List.getElem?_append_left (t.live i g hg).1]

theorem st_T.frame_rc (t : st_T ptr mk cells hs vs) {p : Nat} {c : Cell} (hc : cells[p]? = some c) (k : Nat) :
    st_T ptr mk (cells.set p { c with rc := k }) hs vs :=
  t.frame (by simp) fun _ g _ => by
    rw [List.getElem?_set]
    split
    · next e => rw [if_pos (e ▸ (List.getElem?_eq_some_iff.1 hc).1), ← e, hc]; rfl
    · rfl

theorem st_T.frame_ne (t : st_T ptr mk cells hs vs) {p : Nat} (hp : ∀ i g, getAt hs i = some g → ptr g ≠ p)
    (x : Cell) : st_T ptr mk (cells.set p x) hs vs :=
  t.frame (by simp) fun i g hg => by rw [List.getElem?_set_ne (fun e => hp i g hg e.symm)]

/-! ### reference counts as a function -/

def st_rcAt (cells : List Cell) (q : Nat) : Nat := ((cells[q]?).map Cell.rc).getD 0

theorem st_rcAt_of {q : Nat} {c : Cell} (hc : cells[q]? = some c) : st_rcAt cells q = c.rc := by
  simp [st_rcAt, hc]

theorem st_rcAt_none {q : Nat} (h : cells[q]? = none) : st_rcAt cells q = 0 := by simp [st_rcAt, h]

theorem st_rcAt_append (c : Cell) (q : Nat) :
    st_rcAt (cells ++ [c]) q = if q = cells.length then c.rc else st_rcAt cells q := by
  unfold st_rcAt; grind

theorem st_rcAt_set {p : Nat} (hp : p < cells.length) (c : Cell) (q : Nat) :
    st_rcAt (cells.set p c) q = if q = p then c.rc else st_rcAt cells q := by
  unfold st_rcAt; grind

/-- every cell's count is the number of handles that point to it, and nothing points outside -/
def st_RC (cells : List Cell) (T U : List (Option Nat)) : Prop :=
  ∀ q, st_rcAt cells q = st_cnt T q + st_cnt U q

theorem st_RC.symm (r : st_RC cells T U) : st_RC cells U T := fun q => by rw [r q, Nat.add_comm]

theorem st_RC.alloc (r : st_RC cells T U) (v : BaseSettings) :
    st_RC (cells ++ [⟨v, 1⟩]) (T ++ [some cells.length]) U := fun q => by
  have := r q; have := r cells.length
  have := st_rcAt_none (List.getElem?_eq_none (Nat.le_refl cells.length))
  rw [st_rcAt_append, st_cnt_append]
  by_cases e : q = cells.length
  · subst e; simp; omega
  · simp [e, Ne.symm e]; omega

theorem st_RC.share (r : st_RC cells T U) {p : Nat} {c : Cell} (hc : cells[p]? = some c) :
    st_RC (cells.set p { c with rc := c.rc + 1 }) (T ++ [some p]) U := fun q => by
  have := r q; have := st_rcAt_of hc
  rw [st_rcAt_set (List.getElem?_eq_some_iff.1 hc).1, st_cnt_append]
  by_cases e : q = p
  · subst e; simp; omega
  · simp [e, Ne.symm e]; omega

theorem st_RC.drop (r : st_RC cells T U) {i p : Nat} {c : Cell} (hi : getAt T i = some p)
    (hc : cells[p]? = some c) :
    st_RC (cells.set p { c with rc := c.rc - 1 }) (setAt T i none) U := fun q => by
  have := r q; have := st_rcAt_of hc; have := st_cnt_setAt none q hi
  rw [st_rcAt_set (List.getElem?_eq_some_iff.1 hc).1]
  by_cases e : q = p
  · subst e; simp at this ⊢; omega
  · simp [e, Ne.symm e] at this ⊢; omega

/-- `make_mut` on a shared cell: one reference moves to a fresh cell -/
theorem st_RC.move (r : st_RC cells T U) {i p : Nat} {c : Cell} (hi : getAt T i = some p)
    (hc : cells[p]? = some c) (v : BaseSettings) :
    st_RC (cells.set p { c with rc := c.rc - 1 } ++ [⟨v, 1⟩]) (setAt T i (some cells.length)) U := fun q => by
  have := r q; have := r cells.length; have := st_rcAt_of hc
  have := st_rcAt_none (List.getElem?_eq_none (Nat.le_refl cells.length))
  have := st_cnt_setAt (some cells.length) q hi
  have hp := (List.getElem?_eq_some_iff.1 hc).1
  rw [st_rcAt_append, List.length_set, st_rcAt_set hp]
  by_cases e : q = cells.length
  · subst e
    have hne : cells.length ≠ p := by omega
    simp [Ne.symm hne] at this ⊢; omega
  · by_cases e' : q = p
    · subst e'; simp [e, Ne.symm e] at this ⊢; omega
    · simp [e, Ne.symm e, e', Ne.symm e'] at this ⊢; omega

theorem st_RC.val (r : st_RC cells T U) {p : Nat} {c : Cell} (hc : cells[p]? = some c) (v : BaseSettings) :
    st_RC (cells.set p { c with val := v }) T U := fun q => by
  have := r q; have := st_rcAt_of hc
  rw [st_rcAt_set (List.getElem?_eq_some_iff.1 hc).1]
  split
  · next e => subst e; simp only; omega
  · omega

theorem st_RC.pos (r : st_RC cells T U) {i p : Nat} {c : Cell} (hi : getAt T i = some p)
    (hc : cells[p]? = some c) : 1 ≤ c.rc := by
  have := r p
  rw [st_rcAt_of hc] at this
  have := st_cnt_pos hi
  omega

/-- a count of 1 means: the handle in hand is the only one -/
theorem st_RC.unique (r : st_RC cells T U) {i p : Nat} {c : Cell} (hi : getAt T i = some p)
    (hc : cells[p]? = some c) (h1 : c.rc = 1) :
    (∀ j, j ≠ i → getAt T j ≠ some p) ∧ ∀ j, getAt U j ≠ some p := by
  have := r p
  rw [st_rcAt_of hc, h1] at this
  have := st_cnt_pos hi
  exact ⟨fun j hj e => by have := st_cnt_two hi e hj; omega, fun j e => by have := st_cnt_pos e; omega⟩

/-! ### `st_R` is two tables and the counts -/

theorem st_R.sessT (r : st_R h w) : st_T (fun p => p) (fun v _ => v) h.cells h.sessions w.sessions :=
  ⟨r.slen, r.sessLive, r.sessDead⟩

theorem st_R.bldT (r : st_R h w) :
    st_T HBuilder.ptr (fun v b => ⟨v, b.headers⟩) h.cells h.builders w.builders :=
  ⟨r.blen, r.bldLive, r.bldDead⟩

theorem st_R.RC (r : st_R h w) : st_RC h.cells h.sessions (st_ptrs h.builders) := fun q => by
  cases hc : h.cells[q]? with
  | some c => rw [st_rcAt_of hc]; exact r.rc q c hc
  | none =>
    -- no live handle points at or beyond the end of the cell table
    have hq : h.cells.length ≤ q := by simpa using hc
    rw [st_rcAt_none hc, st_cnt_zero fun i p hp e => by have := (r.sessLive i p hp).1; omega,
      st_cnt_zero fun i p hp e => by
        rw [st_ptrs, st_getAt_map] at hp
        cases hb : getAt h.builders i with
        | none => rw [hb] at hp; cases hp
        | some b => rw [hb] at hp; cases hp; have := (r.bldLive i b hb).1; omega]

theorem st_R.of (ts : st_T (fun p => p) (fun v _ => v) h.cells h.sessions w.sessions)
    (tb : st_T HBuilder.ptr (fun v b => ⟨v, b.headers⟩) h.cells h.builders w.builders)
    (rc : st_RC h.cells h.sessions (st_ptrs h.builders)) : st_R h w :=
  ⟨ts.len, tb.len, ts.live, ts.dead, tb.live, tb.dead, fun p c hc => by rw [← st_rcAt_of hc]; exact rc p⟩

/-! ### transitions -/

theorem st_R_mutS (r : st_R h w) {s p : Nat} {c : Cell}
    (hs : getAt h.sessions s = some p) (hc : h.cells[p]? = some c) (f : BaseSettings → BaseSettings) :
    st_R { (h.makeMut p f).1 with sessions := setAt (h.makeMut p f).1.sessions s (some (h.makeMut p f).2) }
         { w with sessions := setAt w.sessions s (some (f c.val)) } := by
  rcases st_makeMut_cases h p f hc with ⟨h1, e⟩ | ⟨h1, e⟩ <;> rw [e]
  · -- unique: nobody else points to `p`, the value changes in place
    obtain ⟨u1, u2⟩ := r.RC.unique hs hc h1
    refine .of ?_ (r.bldT.frame_ne (fun i b hb (e : b.ptr = p) => u2 i (e ▸ st_ptrs_at hb)) _) ?_
    · show st_T _ _ _ (setAt _ _ _) _
      rw [st_setAt_same hs]
      exact r.sessT.write hs hc (fun j g hj hg (e : g = p) => u1 j hj (e ▸ hg)) _
    · show st_RC _ (setAt _ _ _) _
      rw [st_setAt_same hs]; exact r.RC.val hc _
  · -- shared: one reference moves to a fresh copy
    exact .of (((r.sessT.frame_rc hc _).frame_append _).put s (g := h.cells.length) (c := ⟨f c.val, 1⟩)
      (by simp)) ((r.bldT.frame_rc hc _).frame_append _) (r.RC.move hs hc _)

theorem st_R_mutB (r : st_R h w) {i : Nat} {b : HBuilder} {c : Cell}
    (hb : getAt h.builders i = some b) (hc : h.cells[b.ptr]? = some c) (f : BaseSettings → BaseSettings) :
    st_R { (h.makeMut b.ptr f).1 with
            builders := setAt (h.makeMut b.ptr f).1.builders i (some { b with ptr := (h.makeMut b.ptr f).2 }) }
         { w with builders := setAt w.builders i (some ⟨f c.val, b.headers⟩) } := by
  rcases st_makeMut_cases h b.ptr f hc with ⟨h1, e⟩ | ⟨h1, e⟩ <;> rw [e]
  · obtain ⟨u1, u2⟩ := r.RC.symm.unique (st_ptrs_at hb) hc h1
    refine .of (r.sessT.frame_ne (fun j p hj (e : p = b.ptr) => u2 j (e ▸ hj)) _) ?_ ?_
    · show st_T _ _ _ (setAt _ _ _) _
      rw [st_setAt_same hb]
      exact r.bldT.write hb hc (fun j g hj hg e => u1 j hj (e ▸ st_ptrs_at hg)) _
    · show st_RC _ _ (st_ptrs (setAt _ _ _))
      rw [st_setAt_same hb]; exact (r.RC.symm.val hc _).symm
  · refine .of ((r.sessT.frame_rc hc _).frame_append _)
      (((r.bldT.frame_rc hc _).frame_append _).put i (g := { b with ptr := h.cells.length })
        (c := ⟨f c.val, 1⟩) (by simp)) ?_
    show st_RC _ _ (st_ptrs (setAt _ _ _))
    rw [st_ptrs_setAt]; exact (r.RC.symm.move (st_ptrs_at hb) hc _).symm


/-- one step: the relation is preserved and the observations are equal -/
theorem st_step (r : st_R h w) (op : SOp) :
    st_R (h.step op).1 (w.step op).1 ∧ (h.step op).2 = (w.step op).2 := by
  cases op with
  | newSession =>
    exact ⟨.of ((r.sessT.frame_append _).push (g := h.cells.length) (c := ⟨{}, 1⟩) (by simp))
      (r.bldT.frame_append _) (r.RC.alloc {}), rfl⟩
  | create so =>
    cases so with
    | none =>
      exact ⟨.of (r.sessT.frame_append _)
        ((r.bldT.frame_append _).push (g := ⟨h.cells.length, []⟩) (c := ⟨{}, 1⟩) (by simp))
        (by show st_RC _ _ (st_ptrs (_ ++ _)); rw [st_ptrs_append]; exact (r.RC.symm.alloc {}).symm), rfl⟩
    | some s =>
      rcases r.sessT.cases s with ⟨hs, hv⟩ | ⟨p, c, hs, hc, hv⟩ <;>
        simp only [Heap.step, Val.step, Heap.incr, Heap.cell, hs, hv]
      · exact ⟨r, trivial⟩
      · simp only [hc]
        exact ⟨.of (r.sessT.frame_rc hc _)
          ((r.bldT.frame_rc hc _).push (g := ⟨p, c.val.headers⟩) (c := { c with rc := c.rc + 1 })
            (by simp [(List.getElem?_eq_some_iff.1 hc).1]))
          (by rw [st_ptrs_append]; exact (r.RC.symm.share hc).symm), trivial⟩
  | cloneSession s =>
    rcases r.sessT.cases s with ⟨hs, hv⟩ | ⟨p, c, hs, hc, hv⟩ <;>
      simp only [Heap.step, Val.step, Heap.incr, hs, hv]
    · exact ⟨r, trivial⟩
    · simp only [hc]
      exact ⟨.of ((r.sessT.frame_rc hc _).push (g := p) (c := { c with rc := c.rc + 1 })
          (by simp [(List.getElem?_eq_some_iff.1 hc).1]))
        (r.bldT.frame_rc hc _) (r.RC.share hc), trivial⟩
  | sessSet s _ _ | sessHeader s _ _ | sessAppend s _ _ =>
    rcases r.sessT.cases s with ⟨hs, hv⟩ | ⟨p, c, hs, hc, hv⟩ <;> simp only [Heap.step, Val.step, hs, hv]
    · exact ⟨r, trivial⟩
    · exact ⟨st_R_mutS r hs hc _, trivial⟩
  | bldSet b _ _ =>
    rcases r.bldT.cases b with ⟨hb, hv⟩ | ⟨bl, c, hb, hc, hv⟩ <;> simp only [Heap.step, Val.step, hb, hv]
    · exact ⟨r, trivial⟩
    · exact ⟨st_R_mutB r hb hc _, trivial⟩
  | bldHeader b _ _ | bldAppend b _ _ =>
    rcases r.bldT.cases b with ⟨hb, hv⟩ | ⟨bl, c, hb, hc, hv⟩ <;> simp only [Heap.step, Val.step, hb, hv]
    · exact ⟨r, trivial⟩
    · exact ⟨.of r.sessT (r.bldT.put b (g := { bl with headers := _ }) hc)
        (by rw [st_ptrs_setAt]; exact (st_setAt_same (st_ptrs_at hb)).symm ▸ r.RC), trivial⟩
  | dropSession s =>
    rcases r.sessT.cases s with ⟨hs, hv⟩ | ⟨p, c, hs, hc, hv⟩ <;>
      simp only [Heap.step, Val.step, Heap.decr, hs]
    · rw [← hv, st_setAt_getAt]; exact ⟨r, trivial⟩
    · simp only [hc]
      exact ⟨.of ((r.sessT.frame_rc hc _).clear s) (r.bldT.frame_rc hc _) (r.RC.drop hs hc), trivial⟩
  | dropBuilder b =>
    rcases r.bldT.cases b with ⟨hb, hv⟩ | ⟨bl, c, hb, hc, hv⟩ <;>
      simp only [Heap.step, Val.step, Heap.decr, hb]
    · rw [← hv, st_setAt_getAt]; exact ⟨r, trivial⟩
    · simp only [hc]
      exact ⟨.of (r.sessT.frame_rc hc _) ((r.bldT.frame_rc hc _).clear b)
        (by rw [st_ptrs_setAt]; exact (r.RC.symm.drop (st_ptrs_at hb) hc).symm), trivial⟩
  | obsSession s =>
    rcases r.sessT.cases s with ⟨hs, hv⟩ | ⟨p, c, hs, hc, hv⟩ <;>
      simp only [Heap.step, Val.step, Heap.cell, hs, hv]
    · exact ⟨r, trivial⟩
    · simp only [hc]; exact ⟨r, trivial⟩
  | obsBuilder b =>
    rcases r.bldT.cases b with ⟨hb, hv⟩ | ⟨bl, c, hb, hc, hv⟩ <;>
      simp only [Heap.step, Val.step, Heap.cell, hb, hv]
    · exact ⟨r, trivial⟩
    · simp only [hc]; exact ⟨r, trivial⟩

end

/-- the two machines give the same observations from related states -/
theorem st_run {h : Heap} {w : Val} (r : st_R h w) (ops : List SOp) : Heap.run h ops = Val.run w ops := by
  induction ops generalizing h w with
  | nil => rfl
  | cons op ops ih =>
    obtain ⟨r1, e⟩ := st_step r op
    simp only [Heap.run, Val.run, e, ih r1]

/-- the state after a history -/
def Heap.exec (h : Heap) (ops : List SOp) : Heap := ops.foldl (fun h op => (h.step op).1) h
def Val.exec (w : Val) (ops : List SOp) : Val := ops.foldl (fun w op => (w.step op).1) w

/-- states reached by the same history are related -/
theorem st_exec {h : Heap} {w : Val} (r : st_R h w) (ops : List SOp) : st_R (h.exec ops) (w.exec ops) := by
  induction ops generalizing h w with
  | nil => exact r
  | cons op ops ih => exact ih (st_step r op).1

theorem st_R.obs {h : Heap} {w : Val} (r : st_R h w) (op : SOp) : (h.step op).2 = (w.step op).2 :=
  (st_step r op).2

theorem st_R.next {h : Heap} {w : Val} (r : st_R h w) (op : SOp) : st_R (h.step op).1 (w.step op).1 :=
  (st_step r op).1

theorem st_R.obs_exec {h : Heap} {w : Val} (r : st_R h w) (ops : List SOp) (op : SOp) :
    ((h.exec ops).step op).2 = ((w.exec ops).step op).2 := (st_exec r ops).obs op

/-! ### locality in the specification machine: what an operation can change -/

/-- the (existing) session an operation writes to -/
def SOp.sessTarget : SOp → Option Nat
  | .sessSet s _ _ | .sessHeader s _ _ | .sessAppend s _ _ | .dropSession s => some s
  | _ => none

/-- the (existing) builder an operation writes to -/
def SOp.bldTarget : SOp → Option Nat
  | .bldSet b _ _ | .bldHeader b _ _ | .bldAppend b _ _ | .dropBuilder b => some b
  | _ => none

/-- the effect of an operation on the value owned by session `s` -/
def SOp.actS (op : SOp) (s : Nat) (x : Option BaseSettings) : Option BaseSettings :=
  match op with
  | .sessSet s' f v => if s' = s then x.map (fun st => { st with sc := st.sc.set f v }) else x
  | .sessHeader s' n v => if s' = s then x.map (fun st => { st with headers := st.headers.insert n v }) else x
  | .sessAppend s' n v => if s' = s then x.map (fun st => { st with headers := st.headers.append n v }) else x
  | .dropSession s' => if s' = s then none else x
  | _ => x

/-- the effect of an operation on the value owned by builder `b` -/
def SOp.actB (op : SOp) (b : Nat) (x : Option VBuilder) : Option VBuilder :=
  match op with
  | .bldSet b' f v =>
    if b' = b then x.map (fun bl => { bl with settings := { bl.settings with sc := bl.settings.sc.set f v } }) else x
  | .bldHeader b' n v => if b' = b then x.map (fun bl => { bl with headers := bl.headers.insert n v }) else x
  | .bldAppend b' n v => if b' = b then x.map (fun bl => { bl with headers := bl.headers.append n v }) else x
  | .dropBuilder b' => if b' = b then none else x
  | _ => x

theorem st_actS_untargeted {op : SOp} {s : Nat} (h : op.sessTarget ≠ some s) (x : Option BaseSettings) :
    op.actS s x = x := by
  cases op <;> simp_all [SOp.actS, SOp.sessTarget]

theorem st_actB_untargeted {op : SOp} {b : Nat} (h : op.bldTarget ≠ some b) (x : Option VBuilder) :
    op.actB b x = x := by
  cases op <;> simp_all [SOp.actB, SOp.bldTarget]

theorem st_val_len_mono (w : Val) (op : SOp) :
    w.sessions.length ≤ (w.step op).1.sessions.length ∧
    w.builders.length ≤ (w.step op).1.builders.length := by
  cases op with
  | create so => cases so <;> simp only [Val.step] <;> (try split) <;> simp
  | _ => simp only [Val.step] <;> (try split) <;> simp [st_setAt_length]

theorem st_val_sess_step (w : Val) (op : SOp) {s : Nat} (hs : s < w.sessions.length) :
    getAt (w.step op).1.sessions s = op.actS s (getAt w.sessions s) := by
  cases op with
  | sessSet s' _ _ | sessHeader s' _ _ | sessAppend s' _ _ =>
    simp only [Val.step, SOp.actS]
    by_cases e : s' = s
    · subst e; cases hv : getAt w.sessions s' <;> simp [st_getAt_setAt_lt hs, hv]
    · cases getAt w.sessions s' <;> simp [st_getAt_setAt_lt hs, e]
  | dropSession s' => exact st_getAt_setAt_lt hs _ _
  | newSession => simp [Val.step, SOp.actS, st_getAt_append, hs]
  | cloneSession s' => simp only [Val.step, SOp.actS]; split <;> simp [st_getAt_append, hs]
  | create so => cases so <;> simp only [Val.step, SOp.actS] <;> (try split) <;> rfl
  | _ => simp only [Val.step, SOp.actS] <;> (try split) <;> rfl

theorem st_val_bld_step (w : Val) (op : SOp) {b : Nat} (hb : b < w.builders.length) :
    getAt (w.step op).1.builders b = op.actB b (getAt w.builders b) := by
  cases op with
  | bldSet b' _ _ | bldHeader b' _ _ | bldAppend b' _ _ =>
    simp only [Val.step, SOp.actB]
    by_cases e : b' = b
    · subst e; cases hv : getAt w.builders b' <;> simp [st_getAt_setAt_lt hb, hv]
    · cases getAt w.builders b' <;> simp [st_getAt_setAt_lt hb, e]
  | dropBuilder b' => exact st_getAt_setAt_lt hb _ _
  | create so => cases so <;> simp only [Val.step, SOp.actB] <;> (try split) <;> simp [st_getAt_append, hb]
  | _ => simp only [Val.step, SOp.actB] <;> (try split) <;> rfl

theorem st_val_exec_cons (w : Val) (op : SOp) (ops : List SOp) :
    w.exec (op :: ops) = (w.step op).1.exec ops := rfl

theorem st_heap_exec_cons (h : Heap) (op : SOp) (ops : List SOp) :
    h.exec (op :: ops) = (h.step op).1.exec ops := rfl

/-- a history changes session `s` exactly by the actions of its operations on `s`, in order -/
theorem st_val_sess_exec (w : Val) (ops : List SOp) {s : Nat} (hs : s < w.sessions.length) :
    getAt (w.exec ops).sessions s = ops.foldl (fun x op => op.actS s x) (getAt w.sessions s) := by
  induction ops generalizing w with
  | nil => rfl
  | cons op ops ih =>
    rw [st_val_exec_cons, ih _ (Nat.lt_of_lt_of_le hs (st_val_len_mono w op).1), st_val_sess_step w op hs]
    rfl

theorem st_val_bld_exec (w : Val) (ops : List SOp) {b : Nat} (hb : b < w.builders.length) :
    getAt (w.exec ops).builders b = ops.foldl (fun x op => op.actB b x) (getAt w.builders b) := by
  induction ops generalizing w with
  | nil => rfl
  | cons op ops ih =>
    rw [st_val_exec_cons, ih _ (Nat.lt_of_lt_of_le hb (st_val_len_mono w op).2), st_val_bld_step w op hb]
    rfl

theorem st_foldl_fixed {α β} (f : α → β → α) (l : List β) (h : ∀ b ∈ l, ∀ y, f y b = y) (x : α) :
    l.foldl f x = x := by
  induction l with
  | nil => rfl
  | cons b l ih =>
    rw [List.foldl_cons, h b (by simp), ih (fun c hc => h c (by simp [hc]))]

theorem st_foldl_actS_untargeted (ops : List SOp) (s : Nat) (h : ∀ op ∈ ops, op.sessTarget ≠ some s)
    (x : Option BaseSettings) : ops.foldl (fun x op => op.actS s x) x = x :=
  st_foldl_fixed _ ops (fun op ho => st_actS_untargeted (h op ho)) x

theorem st_foldl_actB_untargeted (ops : List SOp) (b : Nat) (h : ∀ op ∈ ops, op.bldTarget ≠ some b)
    (x : Option VBuilder) : ops.foldl (fun x op => op.actB b x) x = x :=
  st_foldl_fixed _ ops (fun op ho => st_actB_untargeted (h op ho)) x

/-- what `obsSession` / `obsBuilder` show, as functions of the owned value -/
def st_viewS (st : BaseSettings) : Obs := { sc := st.sc, sessHeaders := st.headers, reqHeaders := [] }
def st_viewB (bl : VBuilder) : Obs :=
  { sc := bl.settings.sc, sessHeaders := bl.settings.headers, reqHeaders := bl.headers }

theorem st_val_obsS (w : Val) (s : Nat) :
    (w.step (.obsSession s)).2 = (getAt w.sessions s).map st_viewS := by
  simp only [Val.step]; cases getAt w.sessions s <;> rfl

theorem st_val_obsB (w : Val) (b : Nat) :
    (w.step (.obsBuilder b)).2 = (getAt w.builders b).map st_viewB := by
  simp only [Val.step]; cases getAt w.builders b <;> rfl

/-- the observation list of a history followed by one more operation -/
theorem st_val_run_snoc (w : Val) (ops : List SOp) (op : SOp) :
    Val.run w (ops ++ [op]) = Val.run w ops ++ [((w.exec ops).step op).2] := by
  induction ops generalizing w with
  | nil => rfl
  | cons o ops ih => simp only [List.cons_append, Val.run, ih, st_val_exec_cons]

theorem st_heap_run_snoc (h : Heap) (ops : List SOp) (op : SOp) :
    Heap.run h (ops ++ [op]) = Heap.run h ops ++ [((h.exec ops).step op).2] := by
  induction ops generalizing h with
  | nil => rfl
  | cons o ops ih => simp only [List.cons_append, Heap.run, ih, st_heap_exec_cons]

/-- what a live session shows in the code is the view of the value the specification gives it -/
theorem st_R.obsS_some {h : Heap} {w : Val} (r : st_R h w) {s : Nat} {o : Obs}
    (hs : (h.step (.obsSession s)).2 = some o) : ∃ st, getAt w.sessions s = some st ∧ o = st_viewS st := by
  rw [r.obs, st_val_obsS] at hs
  cases hv : getAt w.sessions s with
  | none => rw [hv] at hs; cases hs
  | some st => rw [hv] at hs; cases hs; exact ⟨st, rfl, rfl⟩

/-- every state the code can reach is related to the state the specification reaches -/
theorem st_reach (hist : List SOp) : st_R (Heap.exec {} hist) (Val.exec {} hist) := st_exec st_R_init hist

end Atto
