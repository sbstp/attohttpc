/-
  Atto/Lemmas/Framing.lean — helper lemmas for property C03 (message framing, RFC 9112 §6.3):
  `parseContentLength` against the `1*DIGIT` spec, the `Content-Length` agreement loop, the
  test "a value of this header lists this token" behind `is_chunked` and the codings (`declaresIn`),
  and the case analysis of `chooseFraming`.
-/
import Atto.Model.Body
import Atto.Model.Compress
import Atto.Spec.FramingSpec
namespace Atto.Framing

/-! ### constants -/

theorem str_chunked : str "chunked" = [99, 104, 117, 110, 107, 101, 100] := by decide +kernel

theorem lower_chunked : lowerBytes (str "chunked") = str "chunked" := by decide +kernel

/-! ### the spec predicates are decidable (used by the concrete examples) -/

instance (v : Bytes) : Decidable (allDigits v) := by unfold allDigits; exact inferInstance
instance (v : Bytes) : Decidable (validCL v) := by unfold validCL; exact inferInstance

/-! ### digits -/

theorem digitsVal_digits (v : Bytes) (acc : Nat) (h : ∀ b ∈ v, 48 ≤ b ∧ b ≤ 57) :
    digitsVal decVal? 10 v acc = some (v.foldl (fun acc b => acc * 10 + (b.toNat - 48)) acc) := by
  induction v generalizing acc with
  | nil => simp [digitsVal]
  | cons b bs ih =>
    have hb := h b (by simp)
    simp only [digitsVal, decVal?, hb.1, hb.2, Bool.and_self, List.foldl_cons]
    exact ih _ (fun c hc => h c (by simp [hc]))

theorem all_visible_of_digits {v : Bytes} (h : ∀ b ∈ v, 48 ≤ b ∧ b ≤ 57) :
    v.all isVisibleAscii = true := by
  rw [List.all_eq_true]
  intro b hb
  have h1 := UInt8.le_iff_toNat_le.mp (h b hb).1
  have h2 := UInt8.le_iff_toNat_le.mp (h b hb).2
  have a : (32 : UInt8) ≤ b := UInt8.le_iff_toNat_le.mpr (by simp at h1 ⊢; omega)
  have c : b < (127 : UInt8) := UInt8.lt_iff_toNat_lt.mpr (by simp at h2 ⊢; omega)
  simp [isVisibleAscii, a, c]

theorem all_isDigit_iff (v : Bytes) : v.all isDigit = true ↔ ∀ b ∈ v, 48 ≤ b ∧ b ≤ 57 := by
  simp [List.all_eq_true, isDigit]

/-- On a `1*DIGIT` string the model parser is the decimal value, refused iff it does not fit. -/
theorem parseContentLength_digits {v : Bytes} (h : allDigits v) :
    parseContentLength v = if decValue v < 2 ^ 64 then some (decValue v) else none := by
  have hvis := all_visible_of_digits h.2
  have hdig := (all_isDigit_iff v).mpr h.2
  have hplus : ∀ rest, v ≠ 43 :: rest := fun rest e =>
    absurd (h.2 43 (by simp [e])).1 (by decide)
  unfold parseContentLength parseUnsigned
  -- the `+`-stripping match is reduced by `simp` using `hplus` from the context
  simp only [valueToStr, hvis, if_true, hdig, h.1, not_true_eq_false, or_self, if_false,
    digitsVal_digits v 0 h.2, show u64Bound = 2 ^ 64 by decide]
  rfl

/-- Whatever the model parser accepts is `1*DIGIT`. -/
theorem allDigits_of_parse {v : Bytes} {n : Nat} (h : parseContentLength v = some n) :
    allDigits v := by
  unfold parseContentLength valueToStr at h
  by_cases hvis : v.all isVisibleAscii = true
  · simp only [hvis, if_true] at h
    split at h
    · cases h
    · next hc =>
      have hc' := not_or.mp hc
      exact ⟨hc'.1, (all_isDigit_iff v).mp (Classical.not_not.mp hc'.2)⟩
  · simp [hvis] at h

theorem parseContentLength_iff (v : Bytes) (n : Nat) :
    parseContentLength v = some n ↔ validCL v ∧ n = decValue v := by
  constructor
  · intro h
    have hd := allDigits_of_parse h
    rw [parseContentLength_digits hd] at h
    by_cases hlt : decValue v < 2 ^ 64
    · simp only [hlt, if_true, Option.some.injEq] at h
      exact ⟨⟨hd, hlt⟩, h.symm⟩
    · simp [hlt] at h
  · rintro ⟨⟨hd, hlt⟩, rfl⟩
    rw [parseContentLength_digits hd]; simp [hlt]

theorem parseContentLength_none_iff (v : Bytes) : parseContentLength v = none ↔ ¬ validCL v := by
  constructor
  · intro h hv
    have := (parseContentLength_iff v (decValue v)).mpr ⟨hv, rfl⟩
    rw [h] at this; cases this
  · intro h
    cases hp : parseContentLength v with
    | none => rfl
    | some n => exact absurd ((parseContentLength_iff v n).mp hp).1 h

/-! ### the Content-Length agreement loop -/

/-- one value: it must parse, and agree with the previous one if there is one -/
theorem loop_cons (v : Bytes) (vs : List Bytes) (last : Option Nat) :
    isContentLengthLoop (v :: vs) last =
      match parseContentLength v with
      | none => .error .contentLength
      | some n =>
        if last = none ∨ last = some n then isContentLengthLoop vs (some n)
        else .error .contentLength := by
  rw [isContentLengthLoop]
  cases parseContentLength v with
  | none => rfl
  | some n =>
    cases last with
    | none => simp
    | some l => by_cases hl : l = n <;> simp [hl]

theorem loop_error {L : List Bytes} {last : Option Nat} {e : E}
    (h : isContentLengthLoop L last = .error e) : e = .contentLength := by
  induction L generalizing last with
  | nil => simp [isContentLengthLoop] at h
  | cons v vs ih =>
    rw [loop_cons] at h
    split at h
    · cases h; rfl
    · split at h
      · exact ih h
      · cases h; rfl

theorem loop_ok {L : List Bytes} {last r : Option Nat}
    (h : isContentLengthLoop L last = .ok r) :
    (∀ v ∈ L, ∃ n, parseContentLength v = some n ∧ r = some n) ∧
    (∀ l, last = some l → r = some l) := by
  induction L generalizing last with
  | nil =>
    simp only [isContentLengthLoop, Except.ok.injEq] at h
    subst h
    exact ⟨by simp, fun l hl => hl⟩
  | cons v vs ih =>
    rw [loop_cons] at h
    split at h
    · cases h
    · next n hn =>
      split at h
      · next hl =>
        obtain ⟨a, b⟩ := ih h
        have hr := b n rfl
        refine ⟨fun w hw => ?_, fun l hl' => ?_⟩
        · rcases List.mem_cons.mp hw with rfl | hw
          · exact ⟨n, hn, hr⟩
          · exact a w hw
        · rcases hl with hl | hl <;> rw [hl] at hl' <;> cases hl'
          exact hr
      · cases h

/-- values that all parse to `n` are accepted with `n`, whatever was seen before agreeing with it -/
theorem loop_all {v : Bytes} {vs : List Bytes} {last : Option Nat} {n : Nat}
    (hall : ∀ w ∈ v :: vs, parseContentLength w = some n) (hlast : last = none ∨ last = some n) :
    isContentLengthLoop (v :: vs) last = .ok (some n) := by
  induction vs generalizing v last with
  | nil => rw [loop_cons, hall v (by simp)]; simp [hlast, isContentLengthLoop]
  | cons w ws ih =>
    rw [loop_cons, hall v (by simp)]
    have := ih (v := w) (last := some n) (fun x hx => hall x (List.mem_cons_of_mem _ hx)) (Or.inr rfl)
    simp [hlast, this]

/-! ### the loop against the spec -/

/-- One or several identical valid values are accepted. -/
theorem loop_length {L : List Bytes} {n : Nat} (hne : L ≠ [])
    (h : ∀ v ∈ L, validCL v ∧ decValue v = n) :
    isContentLengthLoop L none = .ok (some n) := by
  have hall : ∀ v ∈ L, parseContentLength v = some n := by
    intro v hv
    obtain ⟨a, b⟩ := h v hv
    exact (parseContentLength_iff v n).mpr ⟨a, b.symm⟩
  obtain ⟨v, vs, rfl⟩ := List.exists_cons_of_ne_nil hne
  exact loop_all hall (Or.inl rfl)

/-- An invalid value, or two valid values that differ, are refused. -/
theorem loop_refuse {L : List Bytes}
    (h : (∃ v ∈ L, ¬ validCL v) ∨
      (∃ v w, v ∈ L ∧ w ∈ L ∧ validCL v ∧ validCL w ∧ decValue v ≠ decValue w)) :
    isContentLengthLoop L none = .error .contentLength := by
  cases hr : isContentLengthLoop L none with
  | error e => rw [loop_error hr]
  | ok r =>
    exfalso
    obtain ⟨hall, _⟩ := loop_ok hr
    rcases h with ⟨v, hv, hbad⟩ | ⟨v, w, hv, hw, _, _, hne⟩
    · obtain ⟨n, hn, _⟩ := hall v hv
      exact hbad ((parseContentLength_iff v n).mp hn).1
    · obtain ⟨n, hn, hrn⟩ := hall v hv
      obtain ⟨k, hk, hrk⟩ := hall w hw
      have e1 := ((parseContentLength_iff v n).mp hn).2
      have e2 := ((parseContentLength_iff w k).mp hk).2
      rw [hrn] at hrk
      cases hrk
      exact hne (e1.symm.trans e2)

/-- Exhaustive (classical) case analysis on the list of `Content-Length` values. -/
theorem cl_cases (L : List Bytes) :
    L = [] ∨
    (L ≠ [] ∧ ∃ n, ∀ v ∈ L, validCL v ∧ decValue v = n) ∨
    ((∃ v ∈ L, ¬ validCL v) ∨
      (∃ v w, v ∈ L ∧ w ∈ L ∧ validCL v ∧ validCL w ∧ decValue v ≠ decValue w)) := by
  cases L with
  | nil => exact .inl rfl
  | cons v0 vs =>
    refine .inr ?_
    by_cases hbad : ∃ v ∈ v0 :: vs, ¬ validCL v
    · exact .inr (.inl hbad)
    have hval : ∀ v ∈ v0 :: vs, validCL v := fun v hv =>
      Classical.not_not.mp fun hn => hbad ⟨v, hv, hn⟩
    by_cases hsame : ∀ v ∈ v0 :: vs, decValue v = decValue v0
    · exact .inl ⟨by simp, decValue v0, fun v hv => ⟨hval v hv, hsame v hv⟩⟩
    · obtain ⟨w, hw⟩ := Classical.not_forall.mp hsame
      obtain ⟨hw, hne⟩ := Classical.not_imp.mp hw
      exact .inr (.inr ⟨w, v0, hw, by simp, hval w hw, hval v0 (by simp), hne⟩)

/-! ### a header value that lists a token (`is_chunked`, the codings) -/

theorem valueToStr_eq_some (v s : Bytes) :
    valueToStr v = some s ↔ (∀ b ∈ v, isVisibleAscii b = true) ∧ s = v := by
  unfold valueToStr
  by_cases h : v.all isVisibleAscii = true
  · have h' := List.all_eq_true.mp h
    simp only [h, if_true, Option.some.injEq]
    exact ⟨fun e => ⟨h', e.symm⟩, fun e => e.2.symm⟩
  · simp only [h]
    constructor
    · intro e; cases e
    · intro e; exact absurd (List.all_eq_true.mpr e.1) h

/-- a value of header `name` lists the coding `tok` (any letter case, alone or in a comma list) -/
def declaresIn (hs : Headers) (name tok : Bytes) : Prop :=
  ∃ v ∈ hs.getAll name, (∀ b ∈ v, isVisibleAscii b = true) ∧
    ∃ t ∈ splitOnByte 44 v, lowerBytes (strTrim t) = tok

theorem listHasToken_iff (v tok : Bytes) (hl : lowerBytes tok = tok) :
    listHasToken v tok = true ↔ ∃ t ∈ splitOnByte 44 v, lowerBytes (strTrim t) = tok := by
  simp [listHasToken, eqIgnoreAsciiCase, hl]

/-- `have_encoding_item` over the values of one header name, for a lower-case token -/
theorem haveEncodingIn_iff (hs : Headers) (name tok : Bytes) (hl : lowerBytes tok = tok) :
    haveEncodingIn hs name tok = true ↔ declaresIn hs name tok := by
  unfold haveEncodingIn declaresIn
  simp only [List.any_eq_true, List.mem_filterMap, listHasToken_iff _ _ hl]
  constructor
  · rintro ⟨s, ⟨v, hv, hs'⟩, htok⟩
    obtain ⟨hvis, rfl⟩ := (valueToStr_eq_some v s).mp hs'
    exact ⟨s, hv, hvis, htok⟩
  · rintro ⟨v, hv, hvis, htok⟩
    exact ⟨v, ⟨v, hv, (valueToStr_eq_some v v).mpr ⟨hvis, rfl⟩⟩, htok⟩

end Atto.Framing

namespace Atto

/-! ### `chooseFraming`, test by test -/

theorem chooseFraming_chunked {m : Method} {s : Nat} {hs : Headers}
    (hb : bodyless m s = false) (hc : isChunked hs = true) : chooseFraming m s hs = .ok .chunked := by
  simp [chooseFraming, hb, hc]

theorem chooseFraming_cl {m : Method} {s : Nat} {hs : Headers}
    (hb : bodyless m s = false) (hc : isChunked hs = false) :
    chooseFraming m s hs =
      match isContentLength hs with
      | .error e => .error e
      | .ok (some n) => .ok (.length n)
      | .ok none => .ok .close := by
  unfold chooseFraming
  rw [hb, hc]
  rfl

theorem chooseFraming_length {m : Method} {code : Nat} {hs : Headers} {n : Nat}
    (hnb : bodyless m code = false) (hch : isChunked hs = false)
    (hcl : isContentLength hs = .ok (some n)) : chooseFraming m code hs = .ok (.length n) := by
  rw [chooseFraming_cl hnb hch, hcl]

theorem chooseFraming_close {m : Method} {code : Nat} {hs : Headers}
    (hnb : bodyless m code = false) (hch : isChunked hs = false)
    (hcl : isContentLength hs = .ok none) : chooseFraming m code hs = .ok .close := by
  rw [chooseFraming_cl hnb hch, hcl]

end Atto
