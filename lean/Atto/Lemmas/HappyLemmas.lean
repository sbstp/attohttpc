/-
  Atto/Lemmas/HappyLemmas.lean — lemmas about `intertwine`, `earliest`, `removeId`, `drain`, `race`
  and `connect` (Atto/Model/Happy.lean), used by Atto/Props/C17.lean, C17d.lean and C13z.lean.
-/
import Atto.Model.Happy
namespace Atto
namespace Happy

/-! ### `intertwine` -/

theorem hp_intertwine_nil_right {α : Type} (as : List α) : intertwine as [] = as := by
  cases as <;> rfl

theorem hp_intertwine_cons_cons {α : Type} (a b : α) (as bs : List α) :
    intertwine (a :: as) (b :: bs) = a :: b :: intertwine as bs := rfl

theorem hp_intertwine_perm {α : Type} (as bs : List α) : (intertwine as bs).Perm (as ++ bs) := by
  induction as generalizing bs with
  | nil => exact .refl _
  | cons a as ih =>
    cases bs with
    | nil => simp [intertwine]
    | cons b bs =>
      rw [hp_intertwine_cons_cons]
      exact .cons a (((ih bs).cons b).trans List.perm_middle.symm)

theorem hp_intertwine_filter {α : Type} (p : α → Bool) (as bs : List α)
    (ha : ∀ a ∈ as, p a = true) (hb : ∀ b ∈ bs, p b = false) :
    (intertwine as bs).filter p = as ∧ (intertwine as bs).filter (fun x => !p x) = bs := by
  induction as generalizing bs with
  | nil => simp_all [intertwine]
  | cons a as ih =>
    cases bs with
    | nil => simp_all [hp_intertwine_nil_right]
    | cons b bs =>
      obtain ⟨i1, i2⟩ := ih bs (fun x hx => ha x (List.mem_cons_of_mem _ hx))
        (fun x hx => hb x (List.mem_cons_of_mem _ hx))
      simp [hp_intertwine_cons_cons, ha a, hb b, i1, i2]

theorem hp_intertwine_get {α : Type} (as bs : List α) (k : Nat) (hk : k < min as.length bs.length) :
    (intertwine as bs)[2 * k]? = as[k]? ∧ (intertwine as bs)[2 * k + 1]? = bs[k]? := by
  induction as generalizing bs k with
  | nil => simp at hk
  | cons a as ih =>
    cases bs with
    | nil => simp at hk
    | cons b bs =>
      cases k with
      | zero => exact ⟨rfl, rfl⟩
      | succ k =>
        rw [hp_intertwine_cons_cons, show 2 * (k + 1) = 2 * k + 1 + 1 by omega]
        exact ih bs k (by simp only [List.length_cons] at hk; omega)

theorem hp_intertwine_drop {α : Type} (as bs : List α) :
    (intertwine as bs).drop (2 * min as.length bs.length) =
      as.drop (min as.length bs.length) ++ bs.drop (min as.length bs.length) := by
  induction as generalizing bs with
  | nil => simp [intertwine]
  | cons a as ih =>
    cases bs with
    | nil => simp [hp_intertwine_nil_right]
    | cons b bs =>
      rw [hp_intertwine_cons_cons]
      have e : min (a :: as).length (b :: bs).length = min as.length bs.length + 1 := by
        simp only [List.length_cons]; omega
      rw [e]
      have : 2 * (min as.length bs.length + 1) = 2 * min as.length bs.length + 1 + 1 := by omega
      rw [this]
      simp only [List.drop_succ_cons]
      exact ih bs

/-- the order in which `connect` dials: IPv6 first, alternating, resolver order within a family -/
def hp_order (addrs : List Addr) : List Addr :=
  intertwine (addrs.filter (·.fam == .v6)) (addrs.filter (·.fam == .v4))

theorem hp_filter_v4 (l : List Addr) :
    l.filter (·.fam == .v4) = l.filter (fun x => !(x.fam == .v6)) :=
  List.filter_congr fun x _ => by cases x.fam <;> rfl

theorem hp_order_perm (addrs : List Addr) : (hp_order addrs).Perm addrs := by
  refine (hp_intertwine_perm _ _).trans ?_
  rw [hp_filter_v4]
  exact List.filter_append_perm _ _

theorem hp_order_mem {addrs : List Addr} {a : Addr} : a ∈ hp_order addrs ↔ a ∈ addrs :=
  (hp_order_perm addrs).mem_iff

theorem hp_order_filter (addrs : List Addr) :
    (hp_order addrs).filter (·.fam == .v6) = addrs.filter (·.fam == .v6) ∧
    (hp_order addrs).filter (·.fam == .v4) = addrs.filter (·.fam == .v4) := by
  rw [hp_filter_v4 (hp_order addrs)]
  unfold hp_order
  rw [hp_filter_v4 addrs]
  exact hp_intertwine_filter (fun x : Addr => x.fam == Fam.v6) _ _
    (fun a ha => (List.mem_filter.mp ha).2) (fun b hb => by simpa using (List.mem_filter.mp hb).2)

theorem hp_order_single (a : Addr) : hp_order [a] = [a] := by
  unfold hp_order
  cases hf : a.fam <;> simp [hf, intertwine]

theorem hp_connect_race (a b : Addr) (l : List Addr) (timeout : Nat) (deadline : Option Nat)
    (rd : Nat) :
    connect (a :: b :: l) timeout deadline rd =
      race timeout deadline rd (hp_order (a :: b :: l)) [] 0 none := rfl

theorem hp_intertwine_head {α : Type} (as bs : List α) (h : as ≠ []) :
    (intertwine as bs).head? = as.head? := by
  cases as with
  | nil => exact absurd rfl h
  | cons a as => cases bs <;> rfl

/-! ### `earliest`, `removeId` -/

theorem hp_earliest_none {ps : List Pending} : earliest ps = none ↔ ps = [] := by
  cases ps with
  | nil => simp [earliest]
  | cons p ps =>
    simp only [earliest, reduceCtorEq, iff_false]
    split
    · simp
    · split <;> simp

theorem hp_earliest_spec {ps : List Pending} {q : Pending} (h : earliest ps = some q) :
    q ∈ ps ∧ ∀ p ∈ ps, q.done ≤ p.done := by
  induction ps generalizing q with
  | nil => simp [earliest] at h
  | cons p ps ih =>
    simp only [earliest] at h
    split at h
    · next hn =>
      injection h with h; subst h
      rw [hp_earliest_none.mp hn]
      exact ⟨List.mem_cons_self .., fun x hx => by simp at hx; subst hx; exact Nat.le_refl _⟩
    · next q' hq' =>
      obtain ⟨hm, hle⟩ := ih hq'
      split at h
      · next hc =>
        injection h with h; subst h
        refine ⟨List.mem_cons_self .., fun x hx => ?_⟩
        rcases List.mem_cons.mp hx with rfl | hx
        · exact Nat.le_refl _
        · exact Nat.le_trans hc (hle x hx)
      · next hc =>
        injection h with h; subst h
        refine ⟨List.mem_cons_of_mem _ hm, fun x hx => ?_⟩
        rcases List.mem_cons.mp hx with rfl | hx
        · omega
        · exact hle x hx

theorem hp_mem_removeId {ps : List Pending} {p : Pending} {id : Nat} :
    p ∈ removeId ps id ↔ p ∈ ps ∧ p.id ≠ id := by
  simp [removeId, List.mem_filter]

theorem hp_removeId_length {ps : List Pending} {q : Pending} (h : q ∈ ps) :
    (removeId ps q.id).length < ps.length :=
  List.length_filter_lt_length_iff_exists.mpr ⟨q, h, by simp⟩

/-! ### one iteration of `race`, `drain` -/

/-- the attempt started for `a` at time `t` -/
def hp_pend (timeout : Nat) (deadline : Option Nat) (a : Addr) (t : Nat) : Pending :=
  match attemptLimit timeout deadline t with
  | some lim => startAttempt a t lim
  | none => { id := a.id, done := t, res := some .timedOut }

/-- what `race` does after having started the next attempt -/
def hp_after (timeout : Nat) (deadline : Option Nat) (rd : Nat) (rest : List Addr) (ps : List Pending)
    (t : Nat) (fe : Option (Nat × ConnErr)) : ConnOut :=
  match earliest ps with
  | some q =>
    if q.done ≤ t + rd then
      match q.res with
      | none => .ok q.id (max t q.done)
      | some e => race timeout deadline rd rest (removeId ps q.id) (max t q.done)
          (fe.orElse (fun _ => some (q.id, e)))
    else race timeout deadline rd rest ps (t + rd) fe
  | none => race timeout deadline rd rest ps (t + rd) fe

theorem hp_race_nil (timeout : Nat) (deadline : Option Nat) (rd : Nat) (ps : List Pending) (t : Nat)
    (fe : Option (Nat × ConnErr)) :
    race timeout deadline rd [] ps t fe = drain (ps.length + 1) ps t fe := rfl

theorem hp_race_cons (timeout : Nat) (deadline : Option Nat) (rd : Nat) (a : Addr) (rest : List Addr)
    (ps : List Pending) (t : Nat) (fe : Option (Nat × ConnErr)) :
    race timeout deadline rd (a :: rest) ps t fe =
      hp_after timeout deadline rd rest (ps ++ [hp_pend timeout deadline a t]) t fe := rfl

/-- the three ways an iteration continues -/
theorem hp_after_cases (timeout : Nat) (deadline : Option Nat) (rd : Nat) (rest : List Addr)
    (ps : List Pending) (t : Nat) (fe : Option (Nat × ConnErr)) (hne : ps ≠ []) :
    ∃ q, earliest ps = some q ∧
      ((q.done ≤ t + rd ∧ q.res = none ∧
          hp_after timeout deadline rd rest ps t fe = .ok q.id (max t q.done)) ∨
       (q.done ≤ t + rd ∧ ∃ e, q.res = some e ∧
          hp_after timeout deadline rd rest ps t fe =
            race timeout deadline rd rest (removeId ps q.id) (max t q.done)
              (fe.orElse (fun _ => some (q.id, e)))) ∨
       (t + rd < q.done ∧
          hp_after timeout deadline rd rest ps t fe = race timeout deadline rd rest ps (t + rd) fe)) := by
  obtain ⟨q, hq⟩ : ∃ q, earliest ps = some q :=
    Option.ne_none_iff_exists'.mp fun he => hne (hp_earliest_none.mp he)
  refine ⟨q, hq, ?_⟩
  unfold hp_after
  rw [hq]
  simp only
  split
  · next hc =>
    cases hr : q.res with
    | none => exact .inl ⟨hc, rfl, rfl⟩
    | some e => exact .inr (.inl ⟨hc, e, rfl, rfl⟩)
  · next hc => exact .inr (.inr ⟨by omega, rfl⟩)

theorem hp_drain_cases (fuel : Nat) (ps : List Pending) (t : Nat) (fe : Option (Nat × ConnErr)) :
    (ps = [] ∧ drain (fuel + 1) ps t fe = (match fe with | some (id, e) => .err id e t | none => .noDns)) ∨
    ∃ q, earliest ps = some q ∧
      ((q.res = none ∧ drain (fuel + 1) ps t fe = .ok q.id (max t q.done)) ∨
       (∃ e, q.res = some e ∧ drain (fuel + 1) ps t fe =
          drain fuel (removeId ps q.id) (max t q.done) (fe.orElse (fun _ => some (q.id, e))))) := by
  cases he : earliest ps with
  | none =>
    refine .inl ⟨hp_earliest_none.mp he, ?_⟩
    simp only [drain, he]
    cases fe with
    | none => rfl
    | some x => cases x; rfl
  | some q =>
    refine .inr ⟨q, rfl, ?_⟩
    cases hr : q.res with
    | none => exact .inl ⟨rfl, by simp only [drain, he, hr]⟩
    | some e => exact .inr ⟨e, rfl, by simp only [drain, he, hr]⟩

/-! ### the attempts -/

theorem hp_pend_id (timeout : Nat) (deadline : Option Nat) (a : Addr) (t : Nat) :
    (hp_pend timeout deadline a t).id = a.id := by
  unfold hp_pend startAttempt
  split
  · cases a.beh with
    | accept d | refuse d => simp only; split <;> rfl
    | blackhole => rfl
  · rfl

/-- an attempt that connects: the address accepts, within the connect timeout -/
theorem hp_pend_ok {timeout : Nat} {deadline : Option Nat} {a : Addr} {t : Nat}
    (h : (hp_pend timeout deadline a t).res = none) :
    ∃ d, a.beh = .accept d ∧ d ≤ timeout ∧ (hp_pend timeout deadline a t).done = t + d := by
  unfold hp_pend at h ⊢
  split at h
  · next lim hl =>
    have hlim : lim ≤ timeout := by
      unfold attemptLimit at hl
      split at hl
      · injection hl with hl; omega
      · split at hl
        · cases hl
        · injection hl with hl; omega
    unfold startAttempt at h ⊢
    split at h
    · next d hb =>
      split at h
      · next hd => rw [hb]; simp only [if_pos hd]; exact ⟨d, rfl, by omega, rfl⟩
      · cases h
    · split at h <;> cases h
    · cases h
  · cases h

/-- without a deadline an accepting address connects after its latency -/
theorem hp_pend_accept {timeout : Nat} {a : Addr} {t d : Nat} (hb : a.beh = .accept d)
    (hd : d ≤ timeout) : hp_pend timeout none a t = { id := a.id, done := t + d, res := none } := by
  simp [hp_pend, attemptLimit, startAttempt, hb, hd]

/-- an attempt that does not connect under the "nobody accepts in time" hypothesis -/
theorem hp_pend_err {timeout : Nat} {deadline : Option Nat} {a : Addr} {t : Nat}
    (hna : ∀ d, a.beh = .accept d → timeout < d) : (hp_pend timeout deadline a t).res ≠ none := by
  intro h
  obtain ⟨d, hb, hd, _⟩ := hp_pend_ok h
  have := hna d hb; omega

theorem hp_attemptLimit_past (timeout dl t : Nat) (h : dl ≤ t) :
    attemptLimit timeout (some dl) t = none := by
  simp [attemptLimit, h]

/-- an attempt with limit `lim` completes by `t + lim` -/
theorem hp_startAttempt_done (a : Addr) (t lim : Nat) : (startAttempt a t lim).done ≤ t + lim := by
  unfold startAttempt
  split
  · split
    · simp only; omega
    · exact Nat.le_refl _
  · split
    · simp only; omega
    · exact Nat.le_refl _
  · exact Nat.le_refl _

/-- an attempt started at or before the deadline completes by the deadline -/
theorem hp_pend_done_le (timeout dl : Nat) (a : Addr) (t : Nat) (ht : t ≤ dl) :
    (hp_pend timeout (some dl) a t).done ≤ dl := by
  by_cases h : dl ≤ t <;> simp only [hp_pend, attemptLimit, h, if_true, if_false]
  · exact ht
  · have := hp_startAttempt_done a t (min timeout (dl - t))
    omega

theorem hp_connect_single (a : Addr) (timeout : Nat) (deadline : Option Nat) (rd : Nat) :
    connect [a] timeout deadline rd =
      (match (hp_pend timeout deadline a 0).res with
       | none => .ok a.id (hp_pend timeout deadline a 0).done
       | some e => .err a.id e (hp_pend timeout deadline a 0).done) := rfl

/-- decidable form of "accepts within the connect timeout" (for examples) -/
def hp_acceptsWithin (timeout : Nat) (a : Addr) : Bool :=
  match a.beh with
  | .accept d => decide (d ≤ timeout)
  | _ => false

theorem hp_none_accepts {timeout : Nat} {addrs : List Addr}
    (h : ∀ a ∈ addrs, hp_acceptsWithin timeout a = false) :
    ∀ a ∈ addrs, ∀ d, a.beh = .accept d → timeout < d := by
  intro a ha d hb
  have := h a ha
  simp only [hp_acceptsWithin, hb, decide_eq_false_iff_not] at this
  omega

/-! ### what a result of `race` / `drain` / `connect` can be -/

/-- What a result says when `P` holds of every attempt and `T` of every value of the clock: a success
    is that of an attempt that connected, an error is the first error `fe` handed in or that of an
    attempt that failed; `E` = there was nothing to wait for. -/
def hp_Sound (P : Pending → Prop) (T : Nat → Prop) (E : Prop) (fe : Option (Nat × ConnErr)) :
    ConnOut → Prop
  | .ok id t => T t ∧ ∃ q, P q ∧ q.res = none ∧ q.id = id
  | .err id e t => T t ∧ (fe = some (id, e) ∨ ∃ q, P q ∧ q.res = some e ∧ q.id = id)
  | .noDns => E

theorem hp_Sound.imp {P : Pending → Prop} {T : Nat → Prop} {E E' : Prop} {fe : Option (Nat × ConnErr)}
    {o : ConnOut} (hE : E → E') (h : hp_Sound P T E fe o) : hp_Sound P T E' fe o := by
  cases o with
  | noDns => exact hE h
  | _ => exact h

/-- the first error is kept; a later one is recorded only if there was none -/
theorem hp_Sound.orElse {P : Pending → Prop} {T : Nat → Prop} {E X : Prop} {fe : Option (Nat × ConnErr)}
    {q : Pending} {e : ConnErr} {o : ConnOut} (hq : P q) (hr : q.res = some e)
    (h : hp_Sound P T (X ∧ (fe.orElse fun _ => some (q.id, e)) = none)
      (fe.orElse fun _ => some (q.id, e)) o) : hp_Sound P T E fe o := by
  cases o with
  | ok id t => exact h
  | noDns => cases fe <;> cases h.2
  | err id e' t =>
    refine ⟨h.1, ?_⟩
    rcases h.2 with h2 | h2
    · cases fe with
      | some x => exact .inl h2
      | none => cases h2; exact .inr ⟨q, hq, hr, rfl⟩
    · exact .inr h2

theorem hp_drain_sound {P : Pending → Prop} {T : Nat → Prop}
    (hdone : ∀ t q, T t → P q → T (max t q.done))
    (fuel : Nat) (ps : List Pending) (t : Nat) (fe : Option (Nat × ConnErr))
    (hfuel : ps.length < fuel) (hps : ∀ p ∈ ps, P p) (ht : T t) :
    hp_Sound P T (ps = [] ∧ fe = none) fe (drain fuel ps t fe) := by
  induction fuel generalizing ps t fe with
  | zero => omega
  | succ fuel ih =>
    rcases hp_drain_cases fuel ps t fe with ⟨hnil, he⟩ | ⟨q, hq, ⟨hr, he⟩ | ⟨e, hr, he⟩⟩
    · rw [he]
      cases fe with
      | none => exact ⟨hnil, rfl⟩
      | some x => exact ⟨ht, .inl rfl⟩
    · rw [he]
      have hqm := (hp_earliest_spec hq).1
      exact ⟨hdone t q ht (hps q hqm), q, hps q hqm, hr, rfl⟩
    · rw [he]
      have hqm := (hp_earliest_spec hq).1
      have := hp_removeId_length hqm
      exact .orElse (hps q hqm) hr (ih _ _ _ (by omega)
        (fun p hp => hps p (hp_mem_removeId.mp hp).1) (hdone t q ht (hps q hqm)))

/-- `hdone`, `hwait`: the two ways the clock moves (to a completion, on by one race interval) keep `T`;
    `hrest`: an attempt started at a `T`-time satisfies `P`. -/
theorem hp_race_sound {P : Pending → Prop} {T : Nat → Prop} {timeout : Nat} {deadline : Option Nat}
    {rd : Nat} (hdone : ∀ t q, T t → P q → T (max t q.done))
    (hwait : ∀ t q, T t → P q → t + rd < q.done → T (t + rd))
    (rest : List Addr) (ps : List Pending) (t : Nat) (fe : Option (Nat × ConnErr))
    (hrest : ∀ a ∈ rest, ∀ t, T t → P (hp_pend timeout deadline a t)) (hps : ∀ p ∈ ps, P p) (ht : T t) :
    hp_Sound P T (rest = [] ∧ ps = [] ∧ fe = none) fe (race timeout deadline rd rest ps t fe) := by
  induction rest generalizing ps t fe with
  | nil =>
    rw [hp_race_nil]
    exact (hp_drain_sound hdone _ _ _ _ (by omega) hps ht).imp fun h => ⟨rfl, h⟩
  | cons a rest ih =>
    rw [hp_race_cons]
    have hrest' : ∀ a ∈ rest, ∀ t, T t → P (hp_pend timeout deadline a t) :=
      fun x hx => hrest x (List.mem_cons_of_mem _ hx)
    have hps' : ∀ p ∈ ps ++ [hp_pend timeout deadline a t], P p := by
      intro p hp
      rcases List.mem_append.mp hp with hp | hp
      · exact hps p hp
      · rw [List.mem_singleton.mp hp]; exact hrest a (List.mem_cons_self ..) t ht
    obtain ⟨q, hq, h⟩ := hp_after_cases timeout deadline rd rest
      (ps ++ [hp_pend timeout deadline a t]) t fe (by simp)
    have hPq := hps' q (hp_earliest_spec hq).1
    rcases h with ⟨_, hr, he⟩ | ⟨_, e, hr, he⟩ | ⟨hc, he⟩ <;> rw [he]
    · exact ⟨hdone t q ht hPq, q, hPq, hr, rfl⟩
    · exact .orElse hPq hr ((ih _ _ _ hrest' (fun p hp => hps' p (hp_mem_removeId.mp hp).1)
        (hdone t q ht hPq)).imp fun h => ⟨h.1, h.2.2⟩)
    · exact (ih _ _ _ hrest' hps' (hwait t q ht hPq hc)).imp fun h => by simp at h

/-! ### `connect` -/

theorem hp_connect_sound {P : Pending → Prop} {T : Nat → Prop} {timeout : Nat} {deadline : Option Nat}
    {rd : Nat} {addrs : List Addr} (hdone : ∀ t q, T t → P q → T (max t q.done))
    (hwait : ∀ t q, T t → P q → t + rd < q.done → T (t + rd))
    (hstart : ∀ a ∈ addrs, ∀ t, T t → P (hp_pend timeout deadline a t)) (h0 : T 0) :
    hp_Sound P T (addrs = []) none (connect addrs timeout deadline rd) := by
  match addrs with
  | [] => rfl
  | [a] =>
    rw [hp_connect_single]
    have hp := hstart a (List.mem_singleton.mpr rfl) 0 h0
    have ht := hdone 0 _ h0 hp
    rw [Nat.zero_max] at ht
    split
    · next hr => exact ⟨ht, _, hp, hr, hp_pend_id ..⟩
    · next e hr => exact ⟨ht, .inr ⟨_, hp, hr, hp_pend_id ..⟩⟩
  | a :: b :: l =>
    rw [hp_connect_race]
    exact (hp_race_sound hdone hwait _ [] 0 none (fun x hx => hstart x (hp_order_mem.mp hx))
      (fun _ h => nomatch h) h0).imp fun h => by
        have := (hp_order_perm (a :: b :: l)).length_eq
        rw [h.1] at this; cases this

/-- the clock is not looked at -/
theorem hp_connect_sound' (P : Pending → Prop) (addrs : List Addr) (timeout : Nat)
    (deadline : Option Nat) (rd : Nat) (hstart : ∀ a ∈ addrs, ∀ t, P (hp_pend timeout deadline a t)) :
    hp_Sound P (fun _ => True) (addrs = []) none (connect addrs timeout deadline rd) :=
  hp_connect_sound (fun _ _ _ _ => trivial) (fun _ _ _ _ _ => trivial) (fun a ha t _ => hstart a ha t)
    trivial

/-! ### liveness: an accepting address wins, and by when -/

/-- `p` has connected, is due by `B`, and nothing will throw it away: no pending attempt with its id
    has failed, no address still to be dialled carries its id -/
structure hp_Win (B : Nat) (p : Pending) (rest : List Addr) (ps : List Pending) : Prop where
  mem : p ∈ ps
  ok : p.res = none
  due : p.done ≤ B
  uniq : ∀ q ∈ ps, q.id = p.id → q.res = none
  fresh : ∀ a ∈ rest, a.id ≠ p.id

/-- the address `a` that will give such an attempt is still to be dialled, `pre.length` addresses on;
    `t0` is the latest time at which the head of `rest` is dialled (one race interval after its
    predecessor; at once, so earlier, when an attempt fails); dialled by `B - d`, `a` connects `d` later -/
structure hp_Ahead (timeout : Nat) (deadline : Option Nat) (rd B : Nat) (rest : List Addr)
    (ps : List Pending) (t0 : Nat)
    (pre : List Addr) (a : Addr) (post : List Addr) (d : Nat) : Prop where
  split : rest = pre ++ a :: post
  connects : ∀ t, t + d ≤ B → hp_pend timeout deadline a t = ⟨a.id, t + d, none⟩
  due : t0 + pre.length * rd + d ≤ B
  pending : ∀ q ∈ ps, q.id ≠ a.id
  before : ∀ x ∈ pre, x.id ≠ a.id
  after : ∀ x ∈ post, x.id ≠ a.id

/-- a winning attempt is pending, or the address that will give one is ahead -/
def hp_Live (timeout : Nat) (deadline : Option Nat) (rd B : Nat) (rest : List Addr) (ps : List Pending)
    (t0 : Nat) : Prop :=
  (∃ p, hp_Win B p rest ps) ∨ ∃ pre a post d, hp_Ahead timeout deadline rd B rest ps t0 pre a post d

variable {timeout rd B : Nat} {deadline : Option Nat}

/-- at the start of the race: the address at position `k` of a list without repeated ids is ahead -/
theorem hp_Ahead.of_getElem? {k d : Nat} {l : List Addr} {a : Addr}
    (hk : l[k]? = some a) (hnd : (l.map (·.id)).Nodup)
    (hc : ∀ t, t + d ≤ k * rd + d → hp_pend timeout deadline a t = ⟨a.id, t + d, none⟩) :
    hp_Ahead timeout deadline rd (k * rd + d) l [] 0 (l.take k) a (l.drop (k + 1)) d := by
  obtain ⟨hlt, rfl⟩ := List.getElem?_eq_some_iff.mp hk
  have hs : l = l.take k ++ l[k] :: l.drop (k + 1) := by
    rw [List.getElem_cons_drop, List.take_append_drop]
  rw [hs, List.map_append, List.map_cons, List.nodup_append, List.nodup_cons] at hnd
  obtain ⟨_, ⟨h2, _⟩, h3⟩ := hnd
  exact ⟨hs, hc, by rw [List.length_take_of_le (Nat.le_of_lt hlt)]; omega, nofun,
    fun x hx => h3 x.id (List.mem_map_of_mem hx) _ (List.mem_cons_self ..),
    fun x hx he => h2 (he ▸ List.mem_map_of_mem hx)⟩

theorem hp_Win.removeId {p q : Pending} {rest : List Addr} {ps : List Pending}
    (hw : hp_Win B p rest ps) (hq : q ∈ ps) {e : ConnErr} (hr : q.res = some e) :
    hp_Win B p rest (removeId ps q.id) := by
  have hne : p.id ≠ q.id := fun h => by have := hw.uniq q hq h.symm; rw [hr] at this; cases this
  exact ⟨hp_mem_removeId.mpr ⟨hw.mem, hne⟩, hw.ok, hw.due,
    fun x hx => hw.uniq x (hp_mem_removeId.mp hx).1, hw.fresh⟩

theorem hp_drain_win {p : Pending} (fuel : Nat) (ps : List Pending) (t : Nat)
    (fe : Option (Nat × ConnErr)) (hfuel : ps.length < fuel) (ht : t ≤ B) (hw : hp_Win B p [] ps) :
    ∃ id t', drain fuel ps t fe = .ok id t' ∧ t' ≤ B := by
  induction fuel generalizing ps t fe with
  | zero => omega
  | succ fuel ih =>
    rcases hp_drain_cases fuel ps t fe with ⟨hnil, _⟩ | ⟨q, hq, h⟩
    · have := hw.mem; rw [hnil] at this; cases this
    obtain ⟨hqm, hqle⟩ := hp_earliest_spec hq
    have := hqle p hw.mem
    have := hw.due
    rcases h with ⟨hr, he⟩ | ⟨e, hr, he⟩
    · exact ⟨_, _, he, by omega⟩
    · rw [he]
      have := hp_removeId_length hqm
      exact ih _ _ _ (by omega) (by omega) (hw.removeId hqm hr)

/-- the attempt for the head is started: the invariant holds one race interval on -/
theorem hp_Live.dial {t : Nat} {x : Addr} {rest : List Addr} {ps : List Pending}
    (hl : hp_Live timeout deadline rd B (x :: rest) ps t) :
    hp_Live timeout deadline rd B rest (ps ++ [hp_pend timeout deadline x t]) (t + rd) := by
  obtain ⟨p, hw⟩ | ⟨pre, a, post, d, ha⟩ := hl
  · -- the winner stays; the attempt that joins it has another id
    exact .inl ⟨p, List.mem_append_left _ hw.mem, hw.ok, hw.due,
      List.forall_mem_append.mpr ⟨hw.uniq, List.forall_mem_singleton.mpr fun hid =>
        absurd (hp_pend_id .. ▸ hid) (hw.fresh x (List.mem_cons_self ..))⟩,
      fun a ha => hw.fresh a (List.mem_cons_of_mem _ ha)⟩
  · have hB := ha.due
    cases pre with
    | nil =>
      -- the head is the accepting address: its attempt is the winner
      cases ha.split
      rw [ha.connects t (by simpa using hB)]
      exact .inl ⟨⟨x.id, t + d, none⟩, by simp, rfl, by simpa using hB,
        List.forall_mem_append.mpr ⟨fun q hq hid => absurd hid (ha.pending q hq),
          List.forall_mem_singleton.mpr fun _ => rfl⟩, ha.after⟩
    | cons y pre =>
      -- one address less ahead of it
      cases ha.split
      exact .inr ⟨pre, a, post, d, rfl, ha.connects,
        by simp only [List.length_cons, Nat.add_mul, Nat.one_mul] at hB; omega,
        List.forall_mem_append.mpr ⟨ha.pending, List.forall_mem_singleton.mpr
          (by rw [hp_pend_id]; exact ha.before x (List.mem_cons_self ..))⟩,
        fun z hz => ha.before z (List.mem_cons_of_mem _ hz), ha.after⟩

/-- While the invariant holds the race ends in a connection, by `B`. -/
theorem hp_race_live (rest : List Addr) (ps : List Pending)
    (t : Nat) (fe : Option (Nat × ConnErr)) (ht : t ≤ B) (hl : hp_Live timeout deadline rd B rest ps t) :
    ∃ id t', race timeout deadline rd rest ps t fe = .ok id t' ∧ t' ≤ B := by
  induction rest generalizing ps t fe with
  | nil =>
    rw [hp_race_nil]
    obtain ⟨p, hw⟩ | ⟨pre, a, post, d, ha⟩ := hl
    · exact hp_drain_win _ _ _ _ (by omega) ht hw
    · have := ha.split; cases pre <;> cases this
  | cons x rest ih =>
    rw [hp_race_cons]
    have hl' := hl.dial
    have hne : ps ++ [hp_pend timeout deadline x t] ≠ [] := by simp
    generalize ps ++ [hp_pend timeout deadline x t] = ps' at hl' hne ⊢
    obtain ⟨q, hq, h⟩ := hp_after_cases timeout deadline rd rest ps' t fe hne
    obtain ⟨hqm, hqle⟩ := hp_earliest_spec hq
    -- whichever way the clock moves (to `q.done ≤ t + rd`, or on to `t + rd < q.done`) it stays below `B`
    have hmin : min q.done (t + rd) ≤ B := by
      obtain ⟨p, hw⟩ | ⟨pre, a, post, d, ha⟩ := hl'
      · have := hqle p hw.mem; have := hw.due; omega
      · have := ha.due; omega
    rcases h with ⟨hc, hr, he⟩ | ⟨hc, e, hr, he⟩ | ⟨hc, he⟩ <;> rw [he]
    · exact ⟨_, _, rfl, by omega⟩
    · -- an attempt has failed: it is thrown away, the next address is dialled at once
      refine ih _ _ _ (by omega) ?_
      obtain ⟨p, hw⟩ | ⟨pre, a, post, d, ha⟩ := hl'
      · exact .inl ⟨p, hw.removeId hqm hr⟩
      · exact .inr ⟨pre, a, post, d, { ha with
          due := by have := ha.due; omega
          pending := fun y hy => ha.pending y (hp_mem_removeId.mp hy).1 }⟩
    · exact ih _ _ _ (by omega) hl'

end Happy
end Atto
