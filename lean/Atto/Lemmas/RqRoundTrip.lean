/-
  Atto/Lemmas/RqRoundTrip.lean — the independent request parser of Spec/RequestSpec.lean reads back
  what the model's writer (`writeRequest`, `writeHeaders`, `writeBody`) writes:
  lines, request line, field lines, field section, chunked body.  Used by Props/C07 and Props/C12.
-/
import Atto.Spec.RequestSpec
import Atto.Lemmas.RqLex
import Atto.Lemmas.RqRadix
import Atto.Lemmas.RqHeaders
namespace Atto

/-! ### byte classes: the model's (http crate) classes against the spec's -/

/-- the two definitions of `tchar` list the same bytes in the same order -/
theorem rq_isTokenByte_eq (b : UInt8) : rqIsTokenByte b = isTchar b := by
  simp only [isTchar, rqIsTokenByte, isDigit, isUpper, isLower, rqIsDigit, rqIsAlpha, List.contains_cons,
    List.contains_nil, Bool.or_false, Bool.or_assoc]

theorem rq_valueByte_field : ∀ b : UInt8, isValueByte b = true → rqIsFieldByte b = true := by
  apply rq_all_u8
  decide +kernel

/-- A byte outside a class differs from every byte inside it: `32 ∉ method`, `58 ∉ name`, `13 ∉ value`
    come from one-byte facts such as `isTchar 32 = false`. -/
theorem rq_ne_of_class {p : UInt8 → Bool} {b c : UInt8} (hb : p b = true) (hc : p c = false) : b ≠ c :=
  fun e => by rw [e, hc] at hb; cases hb

theorem rq_not_mem_of_class {p : UInt8 → Bool} {l : Bytes} (hl : ∀ b ∈ l, p b = true) {c : UInt8}
    (hc : p c = false) : c ∉ l :=
  fun h => rq_ne_of_class (hl c h) hc rfl

/-! ### well-formedness of what the caller hands to the writer -/

/-- a field name / method: non-empty token -/
def rqToken (n : Bytes) : Prop := n ≠ [] ∧ ∀ b ∈ n, isTchar b = true

/-- a field value: value bytes (no CR, LF, NUL …), no leading or trailing SP / HTAB -/
def rqWFValue (v : Bytes) : Prop :=
  (∀ b ∈ v, isValueByte b = true) ∧ v.head? ≠ some 32 ∧ v.head? ≠ some 9 ∧
  v.getLast? ≠ some 32 ∧ v.getLast? ≠ some 9

instance (n : Bytes) : Decidable (rqToken n) := by unfold rqToken; infer_instance
instance (v : Bytes) : Decidable (rqWFValue v) := by unfold rqWFValue; infer_instance

/-- every name a non-empty token, every value well-formed -/
def Headers.WFHead (h : Headers) : Prop := ∀ p ∈ h, rqToken p.1 ∧ rqWFValue p.2

/-- what the request builder guarantees (`HeaderName` is lower-case): every name a non-empty
    lower-case token, every value made of value bytes without CR / LF and without leading or
    trailing SP / HTAB -/
def Headers.WFReq (h : Headers) : Prop := ∀ p ∈ h, rqToken p.1 ∧ lowerBytes p.1 = p.1 ∧ rqWFValue p.2

instance (h : Headers) : Decidable (Headers.WFHead h) := by unfold Headers.WFHead; infer_instance
instance (h : Headers) : Decidable (Headers.WFReq h) := by unfold Headers.WFReq; infer_instance

theorem Headers.WFReq.head {h : Headers} (hw : h.WFReq) : h.WFHead :=
  fun p hp => ⟨(hw p hp).1, (hw p hp).2.2⟩

/-! ### lines -/

theorem rq_splitCRLF_append (l r : Bytes) (h : (13 : UInt8) ∉ l) :
    rqSplitCRLF (l ++ 13 :: 10 :: r) = some (l, r) := by
  induction l with
  | nil => simp [rqSplitCRLF]
  | cons a l ih =>
    have ha : a ≠ 13 := fun e => h (by simp [e])
    have hl : (13 : UInt8) ∉ l := fun e => h (by simp [e])
    simp [rqSplitCRLF, ha, ih hl]

theorem rq_dropWhile_ows (v : Bytes) (h1 : v.head? ≠ some 32) (h2 : v.head? ≠ some 9) :
    v.dropWhile rqIsOWS = v := by
  cases v with
  | nil => rfl
  | cons a v =>
    have ha : rqIsOWS a = false := by
      simp only [List.head?_cons, ne_eq, Option.some.injEq] at h1 h2
      simp [rqIsOWS, h1, h2]
    simp [ha]

theorem rq_trimOWS (v : Bytes) (hv : rqWFValue v) : rqTrimOWS (32 :: v) = v := by
  obtain ⟨_, h1, h2, h3, h4⟩ := hv
  unfold rqTrimOWS
  have : (32 :: v).dropWhile rqIsOWS = v.dropWhile rqIsOWS := by simp [rqIsOWS]
  rw [this, rq_dropWhile_ows v h1 h2, rq_dropWhile_ows v.reverse (by simpa using h3) (by simpa using h4)]
  simp

/-- the request line -/
theorem rq_parseRequestLine (m t : Bytes) (hm : rqToken m) (ht : t ≠ [])
    (ht' : ∀ c ∈ t, c ≠ 32 ∧ c ≠ 13 ∧ c ≠ 10) :
    rqParseRequestLine (m ++ 32 :: (t ++ 32 :: str "HTTP/1.1")) = some (m, t) := by
  have hm32 : (32 : UInt8) ∉ m := rq_not_mem_of_class hm.2 rfl
  have ht32 : (32 : UInt8) ∉ t := fun h => (ht' 32 h).1 rfl
  unfold rqParseRequestLine
  rw [rq_takeWhile_ne 32 m _ hm32, rq_dropWhile_ne 32 m _ hm32]
  simp only
  rw [rq_takeWhile_ne 32 t _ ht32, rq_dropWhile_ne 32 t _ ht32]
  have h1 : m.all rqIsTokenByte = true := List.all_eq_true.mpr fun b hb => (rq_isTokenByte_eq b).trans (hm.2 b hb)
  have h2 : rqNoCRLF (m ++ 32 :: (t ++ 32 :: str "HTTP/1.1")) = true := by
    rw [rq_str_http11]
    simp only [rqNoCRLF, List.all_append, List.all_cons, Bool.and_eq_true, List.all_eq_true, bne_iff_ne]
    exact ⟨fun b hb => ⟨rq_ne_of_class (hm.2 b hb) rfl, rq_ne_of_class (hm.2 b hb) rfl⟩, by decide,
      fun b hb => (ht' b hb).2, by decide⟩
  simp [hm.1, h1, ht, h2]

/-- one field line -/
theorem rq_parseFieldLine (n v : Bytes) (hn : rqToken n) (hv : rqWFValue v) :
    rqParseFieldLine (n ++ str ": " ++ v) = some (n, v) := by
  have hn58 : (58 : UInt8) ∉ n := rq_not_mem_of_class hn.2 rfl
  unfold rqParseFieldLine
  rw [rq_str_colonsp]
  simp only [List.append_assoc, List.cons_append, List.nil_append]
  rw [rq_takeWhile_ne 58 n _ hn58, rq_dropWhile_ne 58 n _ hn58]
  simp only
  rw [rq_trimOWS v hv]
  have h1 : n.all rqIsTokenByte = true := List.all_eq_true.mpr fun b hb => (rq_isTokenByte_eq b).trans (hn.2 b hb)
  have h2 : v.all rqIsFieldByte = true := List.all_eq_true.mpr fun b hb => rq_valueByte_field b (hv.1 b hb)
  simp [hn.1, h1, h2]

theorem rq_fieldLine_no13 (n v : Bytes) (hn : rqToken n) (hv : rqWFValue v) :
    (13 : UInt8) ∉ n ++ str ": " ++ v := by
  rw [rq_str_colonsp]
  simp only [List.mem_append, List.mem_cons, List.not_mem_nil, or_false, not_or]
  exact ⟨⟨rq_not_mem_of_class hn.2 rfl, by decide⟩, rq_not_mem_of_class hv.1 rfl⟩

/-- the field section -/
theorem rq_parseFields (h : Headers) (hw : h.WFHead) (rest : Bytes) :
    ∀ fuel, h.length < fuel → rqParseFields fuel (writeHeaders h ++ rest) = some (h, rest) := by
  induction h with
  | nil =>
    intro fuel hf
    cases fuel with
    | zero => omega
    | succ f => simp [writeHeaders, rqParseFields, rqSplitCRLF]
  | cons p h ih =>
    intro fuel hf
    cases fuel with
    | zero => omega
    | succ f =>
      have hp := hw p (by simp)
      have hw' : Headers.WFHead h := fun q hq => hw q (by simp [hq])
      have e : writeHeaders (p :: h) ++ rest =
          (p.1 ++ str ": " ++ p.2) ++ 13 :: 10 :: (writeHeaders h ++ rest) := by
        simp [writeHeaders, List.append_assoc]
      rw [e, rqParseFields, rq_splitCRLF_append _ _ (rq_fieldLine_no13 p.1 p.2 hp.1 hp.2)]
      have hne : p.1 ++ str ": " ++ p.2 ≠ [] := by
        intro h0
        have := hp.1.1
        simp at h0
        exact this h0.1
      simp only [hne, if_false, rq_parseFieldLine p.1 p.2 hp.1 hp.2,
        ih hw' f (by simp at hf; omega), Option.map_some]

/-! ### chunked body -/

/-- one chunk as `ChunkedWriter::write` emits it for a non-empty slice -/
def rqEncChunk (w : Bytes) : Bytes := hexLower w.length ++ [13, 10] ++ w ++ [13, 10]

def rqNonEmpty (ws : List Bytes) : List Bytes := ws.filter (fun w => w ≠ [])

theorem rq_chunkedWrite_nil : chunkedWrite [] = [] := rfl

/-- whatever maps the empty slice to nothing does not see the empty slices -/
theorem rq_flatten_nonEmpty (f : Bytes → Bytes) (h0 : f [] = []) (ws : List Bytes) :
    ((rqNonEmpty ws).map f).flatten = (ws.map f).flatten := by
  induction ws with
  | nil => rfl
  | cons w ws ih =>
    cases w with
    | nil => simpa [rqNonEmpty, h0] using ih
    | cons a w => simpa [rqNonEmpty] using ih

/-- empty slices produce no bytes: the chunk stream is the encoding of the non-empty writes -/
theorem rq_chunks_flatten (ws : List Bytes) :
    (ws.map chunkedWrite).flatten = ((rqNonEmpty ws).map rqEncChunk).flatten := by
  rw [← rq_flatten_nonEmpty chunkedWrite rfl]
  congr 1
  refine List.map_congr_left fun w hw => ?_
  have hw' : w ≠ [] := by simpa using (List.mem_filter.mp hw).2
  simp [chunkedWrite, rqEncChunk, hw']

theorem rq_nonEmpty_flatten (ws : List Bytes) : (rqNonEmpty ws).flatten = ws.flatten := by
  simpa using rq_flatten_nonEmpty id rfl ws

theorem rq_nonEmpty_ne (ws : List Bytes) : ∀ w ∈ rqNonEmpty ws, 1 ≤ w.length := by
  intro w hw
  simp only [rqNonEmpty, List.mem_filter, decide_eq_true_eq] at hw
  cases w with
  | nil => exact absurd rfl hw.2
  | cons a w => simp

/-- the last-chunk ends the chunk list; what follows it is left untouched -/
theorem rq_decodeChunks_last (f : Nat) (rest : Bytes) :
    rqDecodeChunks (f + 1) (48 :: 13 :: 10 :: 13 :: 10 :: rest) = some ([], rest) := by
  have hs := rq_splitCRLF_append [48] (13 :: 10 :: rest) (by decide)
  have h0 : rqParseHex [48] = some 0 := by decide
  simp only [List.cons_append, List.nil_append] at hs
  simp [rqDecodeChunks, hs, h0]

/-- one non-empty chunk is read back and the decoder goes on behind it -/
theorem rq_decodeChunks_chunk (f : Nat) (w tail : Bytes) (hw : 1 ≤ w.length) :
    rqDecodeChunks (f + 1) (rqEncChunk w ++ tail) =
      (rqDecodeChunks f tail).map (fun p => (w :: p.1, p.2)) := by
  have e : rqEncChunk w ++ tail = hexLower w.length ++ 13 :: 10 :: (w ++ 13 :: 10 :: tail) := by
    simp [rqEncChunk, List.append_assoc]
  rw [e, rqDecodeChunks, rq_splitCRLF_append _ _ (rq_hexLower_no13 w.length)]
  simp only []
  rw [rq_hexLower_parse]
  obtain ⟨k, hk⟩ : ∃ k, w.length = k + 1 := ⟨w.length - 1, by omega⟩
  have h1 : ¬ ((w ++ 13 :: 10 :: tail).length < w.length + 2 ∨
      ((w ++ 13 :: 10 :: tail).drop w.length).take 2 ≠ [13, 10]) := by simp
  have h2 : (w ++ 13 :: 10 :: tail).drop (w.length + 2) = tail := by rw [← List.drop_drop]; simp
  have h3 : (w ++ 13 :: 10 :: tail).take w.length = w := by simp
  rw [hk] at h1 h2 h3 ⊢
  simp only [h1, if_false, h2, h3]

/-- the spec decoder reads back a sequence of non-empty chunks followed by the last-chunk, and
    leaves what follows untouched -/
theorem rq_decodeChunks_enc (ws : List Bytes) (hne : ∀ w ∈ ws, 1 ≤ w.length) (rest : Bytes) :
    ∀ fuel, ((ws.map rqEncChunk).flatten ++ [48, 13, 10, 13, 10] ++ rest).length < fuel →
      rqDecodeChunks fuel ((ws.map rqEncChunk).flatten ++ [48, 13, 10, 13, 10] ++ rest) = some (ws, rest) := by
  induction ws with
  | nil =>
    intro fuel hf
    obtain ⟨f, rfl⟩ : ∃ f, fuel = f + 1 := ⟨fuel - 1, by omega⟩
    exact rq_decodeChunks_last f rest
  | cons w ws ih =>
    intro fuel hf
    obtain ⟨f, rfl⟩ : ∃ f, fuel = f + 1 := ⟨fuel - 1, by omega⟩
    have e : ((w :: ws).map rqEncChunk).flatten ++ [48, 13, 10, 13, 10] ++ rest =
        rqEncChunk w ++ ((ws.map rqEncChunk).flatten ++ [48, 13, 10, 13, 10] ++ rest) := by
      simp only [List.map_cons, List.flatten_cons, List.append_assoc]
    rw [e] at hf ⊢
    have : 1 ≤ (rqEncChunk w).length := by simp [rqEncChunk]; omega
    rw [List.length_append] at hf
    rw [rq_decodeChunks_chunk f w _ (hne w List.mem_cons_self),
      ih (fun x hx => hne x (List.mem_cons_of_mem _ hx)) f (by omega)]
    rfl

theorem rq_decodeChunks_enc' (ws : List Bytes) (hne : ∀ w ∈ ws, 1 ≤ w.length) (rest : Bytes) :
    decodeChunks ((ws.map rqEncChunk).flatten ++ [48, 13, 10, 13, 10] ++ rest) = some (ws, rest) :=
  rq_decodeChunks_enc ws hne rest _ (Nat.lt_succ_self _)

/-- `writeBody` of a chunked body, decoded -/
theorem rq_writeBody_chunked (b : BodyM) (hk : b.kind = .chunked) :
    writeBody b = ((rqNonEmpty b.writes).map rqEncChunk).flatten ++ [48, 13, 10, 13, 10] := by
  simp only [writeBody, hk, rq_chunks_flatten, rq_str_last]

/-! ### looking fields up -/

theorem rq_fieldValues_getAll (hs : Headers) (n : Bytes) (hl : ∀ p ∈ hs, lowerBytes p.1 = p.1) :
    rqFieldValues hs n = hs.getAll n := by
  induction hs with
  | nil => rfl
  | cons p hs ih =>
    have hp := hl p (by simp)
    have ih' := ih (fun q hq => hl q (by simp [hq]))
    rw [rq_getAll_cons, ← ih']
    unfold rqFieldValues
    by_cases h : p.1 = n
    · subst h; simp [hp]
    · simp [hp, h]

/-! ### well-formedness is preserved by the header-map operations -/

theorem rq_WFReq_remove {h : Headers} (n : Bytes) (hw : h.WFReq) : (h.remove n).WFReq := by
  intro p hp
  simp only [Headers.remove, List.mem_filter] at hp
  exact hw p hp.1

theorem rq_WFReq_append {h : Headers} {n v : Bytes} (hw : h.WFReq)
    (hn : rqToken n ∧ lowerBytes n = n) (hv : rqWFValue v) : Headers.WFReq (h ++ [(n, v)]) := by
  intro p hp
  simp only [List.mem_append, List.mem_cons, List.not_mem_nil, or_false] at hp
  rcases hp with hp | rfl
  · exact hw p hp
  · exact ⟨hn.1, hn.2, hv⟩

theorem rq_WFReq_insert {h : Headers} {n v : Bytes} (hw : h.WFReq)
    (hn : rqToken n ∧ lowerBytes n = n) (hv : rqWFValue v) : (h.insert n v).WFReq :=
  rq_WFReq_append (rq_WFReq_remove n hw) hn hv

theorem rq_WFReq_insertIfMissing {h : Headers} {n v : Bytes} (hw : h.WFReq)
    (hn : rqToken n ∧ lowerBytes n = n) (hv : rqWFValue v) : (h.insertIfMissing n v).WFReq := by
  unfold Headers.insertIfMissing
  split
  · exact hw
  · exact rq_WFReq_append hw hn hv

theorem rq_natDigits_WFValue (n : Nat) : rqWFValue (natDigits n) := by
  -- all its bytes are digits; SP and HTAB are not
  have h := rq_natDigits_digit n
  refine ⟨fun b hb => (rq_isDigit_valueByte b (h b hb)).1, ?_, ?_, ?_, ?_⟩
  · intro e; exact absurd (h 32 (List.mem_of_mem_head? e)) (by decide)
  · intro e; exact absurd (h 9 (List.mem_of_mem_head? e)) (by decide)
  · intro e; exact absurd (h 32 (List.mem_of_getLast? e)) (by decide)
  · intro e; exact absurd (h 9 (List.mem_of_getLast? e)) (by decide)

/-- the names the request builder writes itself are lower-case tokens -/
theorem rq_builder_names :
    ∀ n ∈ [hName "accept-encoding", hName "connection", nameCL, nameTE, hName "content-type",
           hName "accept", hName "user-agent", hName "host"], rqToken n ∧ lowerBytes n = n := by
  simp only [hName, nameCL, nameTE, str_data]
  decide +kernel

/-- … and the values it writes itself are well-formed -/
theorem rq_builder_values :
    ∀ v ∈ [str "gzip, deflate", str "close", str "chunked", str "*/*"], rqWFValue v := by
  simp only [str_data]
  decide +kernel

/-- `tryPrepare` keeps the header map well-formed provided the configured User-Agent and the body's
    Content-Type are well-formed values -/
theorem rq_WFReq_tryPrepare (s : PrepSettings) (h0 : Headers) (b : BodyM) (hw : h0.WFReq)
    (hua : rqWFValue s.userAgent) (hct : ∀ t, b.contentType = some t → rqWFValue t) :
    (tryPrepare s h0 b).WFReq := by
  have hn := fun n hn => rq_builder_names n hn
  have hv := fun v hv => rq_builder_values v hv
  simp only [List.mem_cons, List.not_mem_nil, or_false, forall_eq_or_imp, forall_eq] at hn hv
  obtain ⟨nAE, nConn, nCL, nTE, nCT, nAcc, nUA, _⟩ := hn
  obtain ⟨vGzip, vClose, vChunked, vAny⟩ := hv
  unfold tryPrepare
  extract_lets h1 h2 h3 h4 h5 h6
  have w1 : h1.WFReq := by
    unfold h1; split
    · exact rq_WFReq_insert hw nAE vGzip
    · exact hw
  have w3 : h3.WFReq := rq_WFReq_remove _ (rq_WFReq_remove _ (rq_WFReq_insert w1 nConn vClose))
  have w4 : h4.WFReq := by
    unfold h4; split
    · exact w3
    · exact rq_WFReq_insert w3 nCL (rq_natDigits_WFValue _)
    · exact rq_WFReq_insert w3 nTE vChunked
  have w5 : h5.WFReq := by
    unfold h5; split
    · next t ht => exact rq_WFReq_insert w4 nCT (hct t ht)
    · exact w4
  exact rq_WFReq_insertIfMissing (rq_WFReq_insertIfMissing w5 nAcc vAny) nUA hua

theorem rq_WFReq_setHost (h : Headers) (u : Url) (hw : h.WFReq) (hau : rqWFValue u.authority) :
    (setHost h u).WFReq :=
  rq_WFReq_insert hw (rq_builder_names _ (by simp)) hau

theorem rq_writeHeaders_length (h : Headers) : h.length < (writeHeaders h).length := by
  induction h with
  | nil => simp [writeHeaders]
  | cons p h ih =>
    have : writeHeaders (p :: h) = (p.1 ++ str ": " ++ p.2 ++ [13, 10]) ++ writeHeaders h := by
      simp [writeHeaders, List.append_assoc]
    rw [this]
    simp only [List.length_append, List.length_cons, List.length_nil]
    omega

/-- head of a request: request line and field section are read back, the rest is untouched -/
theorem rq_parse_head (m t : Bytes) (h : Headers) (rest : Bytes) (hm : rqToken m) (ht : t ≠ [])
    (ht' : ∀ c ∈ t, c ≠ 32 ∧ c ≠ 13 ∧ c ≠ 10) (hw : h.WFHead) :
    parseRequest (m ++ [32] ++ t ++ str " HTTP/1.1\r\n" ++ writeHeaders h ++ rest) =
      match rqParseBody h rest with
      | none => none
      | some (body, left) => some ({ method := m, target := t, headers := h, body := body }, left) := by
  have e : m ++ [32] ++ t ++ str " HTTP/1.1\r\n" ++ writeHeaders h ++ rest =
      (m ++ 32 :: (t ++ 32 :: str "HTTP/1.1")) ++ 13 :: 10 :: (writeHeaders h ++ rest) := by
    rw [rq_str_http11crlf]; simp [List.append_assoc]
  have h13 : (13 : UInt8) ∉ m ++ 32 :: (t ++ 32 :: str "HTTP/1.1") := by
    rw [rq_str_http11]
    simp only [List.mem_append, List.mem_cons, List.not_mem_nil, or_false, not_or]
    exact ⟨rq_not_mem_of_class hm.2 rfl, by decide, fun hh => (ht' 13 hh).2.1 rfl, by decide⟩
  rw [e, parseRequest, rq_splitCRLF_append _ _ h13]
  simp only []
  rw [rq_parseRequestLine m t hm ht ht']
  simp only []
  rw [rq_parseFields h hw rest _ (by
    have := rq_writeHeaders_length h
    simp only [List.length_append]; omega)]
  rfl

end Atto
