/-
  Atto/Lemmas/BufViewChunked.lean — chunked bodies as `Tracks` instances: one-step lemmas for
  `fill_buf` / `read` / `consume` on the flat-stream decoder (invariant `Rep` / `Done` of
  Lemmas/ChunkedFlat.lean), carried to the BufReader model (`chunked_step`, Lemmas/ChunkedRuns.lean,
  for `read`; `Chunked.fillBuf_sim` for `fill_buf`): the complete body in the `Read` view and in the `BufRead`
  view (Props/C01, Props/BufView (b1)), and complete chunks followed by anything (Props/C19).
-/
import Atto.Lemmas.BufViewLC
import Atto.Lemmas.ChunkedRuns
namespace Atto

local notation "L" => Consts.chunkSizeLineLimit

/-! ## The flat decoder: payload pending (`Rep`) or end reached and everything handed out (`Done`) -/

/-- `rem` is what is still to be handed out of a chunked body whose last-chunk is `last` -/
def ChF (last : LastS) (trail : List Item) (c : Chunked (List Item)) (rem : Bytes) : Prop :=
  Rep c rem (bytesI last.enc ++ trail) ∨ (Done c ∧ rem = [])

theorem chF_fill (last : LastS) (hl : last.WF L) (trail : List Item) (m : Nat) (hm : 0 < m)
    (c : Chunked (List Item)) (rem : Bytes) (h : ChF last trail c rem) :
    ∃ bs, (c.fillBuf flatSrc m).1 = .ok bs ∧ bs <+: rem ∧ (bs = [] ↔ rem = []) ∧
      ChF last trail (c.fillBuf flatSrc m).2 rem := by
  rcases h with hrep | ⟨hd, rfl⟩
  · by_cases hP : rem = []
    · subst hP
      rw [fillBuf_last_eq c last hl trail m hrep]
      exact ⟨[], rfl, List.prefix_refl _, by simp, .inr ⟨⟨(rep_nil c _ hrep).1, rfl, rfl, rfl⟩, rfl⟩⟩
    · obtain ⟨c', hfb, hne, hrep'⟩ := hrep.fillBuf hP hm
      rw [hfb]
      obtain ⟨d, cs, _, e⟩ := hrep'.good
      exact ⟨avail c', rfl, e ▸ List.prefix_append _ _, ⟨fun h => absurd h hne, fun h => absurd h hP⟩,
        .inl hrep'⟩
  · rw [fillBuf_done _ c m hd]
    exact ⟨[], rfl, List.prefix_refl _, by simp, .inr ⟨hd, rfl⟩⟩

theorem chF_read (last : LastS) (hl : last.WF L) (trail : List Item) (m : Nat) (hm : 0 < m)
    (c : Chunked (List Item)) (rem : Bytes) (n : Nat) (h : ChF last trail c rem) :
    ∃ bs rem', (c.read flatSrc m n).1 = .ok bs ∧ rem = bs ++ rem' ∧
      (0 < n → (bs = [] ↔ rem = [])) ∧ ChF last trail (c.read flatSrc m n).2 rem' := by
  rcases h with hrep | ⟨hd, rfl⟩
  · by_cases hP : rem = []
    · subst hP
      obtain ⟨h1, h2⟩ := step_last c last hl trail m n hrep
      exact ⟨[], [], h1, rfl, by simp, .inr ⟨h2, rfl⟩⟩
    · obtain ⟨out, P', h1, hrem, _, hne, hrep'⟩ := step_progress c rem _ m n hm hrep hP
      exact ⟨out, P', h1, hrem, fun hn => ⟨fun h => absurd h (hne hn), fun h => absurd h hP⟩,
        .inl hrep'⟩
  · obtain ⟨h1, h2⟩ := step_done flatSrc c m n hd
    exact ⟨[], [], h1, rfl, by simp, .inr ⟨h2, rfl⟩⟩

theorem chF_consume (last : LastS) (trail : List Item) (c : Chunked (List Item)) (rem : Bytes)
    (k : Nat) (h : ChF last trail c rem) :
    ∃ rem', rem = (avail c).take k ++ rem' ∧ ChF last trail (c.consume k) rem' := by
  rcases h with hrep | ⟨hd, rfl⟩
  · obtain ⟨rem', e, hrep'⟩ := hrep.consume k
    exact ⟨rem', e, .inl hrep'⟩
  · obtain ⟨hf, hl, hr, he⟩ := hd
    exact ⟨[], by simp [avail, hl], .inr ⟨⟨hf, by simp only [Chunked.consume]; omega, hr, he⟩, rfl⟩⟩

/-! ## Through the BufReader model -/

theorem chunked_fill_eq (c : Chunked BufR) (m : Nat) :
    (Body.chunked c).fillBuf m = ((c.fillBuf bufSrc m).1, .chunked (c.fillBuf bufSrc m).2) := by
  simp [Body.fillBuf]

theorem mapInner_consume (f : σ → τ) (c : Chunked σ) (k : Nat) :
    (c.consume k).mapInner f = (c.mapInner f).consume k := rfl

/-- a complete chunked body (last-chunk `last`, then `trail`) behind the BufReader model -/
abbrev ChClean (last : LastS) (trail : List Item) : Body → Bytes → Prop := ChBody (ChF last trail)

/-- the `Read` view of a complete chunked body -/
theorem chunked_clean_step (last : LastS) (hl : last.WF L) (trail : List Item) (m : Nat) (hm : 0 < m) :
    ReadTracks m (ChClean last trail) QClean := by
  refine chunked_step m fun c rem n h _ => ?_
  obtain ⟨bs, rem', hr1, hr2, hr3, hr4⟩ := chF_read last hl trail m hm c rem n h
  rw [flatStep, hr1]
  exact ⟨⟨bs, rfl, hr3⟩, rem', hr4, hr2⟩

theorem chunked_clean_buf_step (last : LastS) (hl : last.WF L) (trail : List Item) (m : Nat)
    (hm : 0 < m) : BufTracks m (fun _ _ => True) (ChClean last trail) QCleanB := by
  rintro b rem op ⟨c, rfl, hok, hch⟩ _
  cases op with
  | read n =>
    obtain ⟨⟨bs, hres, hiff⟩, rem', hinv', hrem⟩ :=
      (chunked_clean_step last hl trail m hm).step n ⟨c, rfl, hok, hch⟩
    rw [step_read, BEv.ofRead_eq, hres]
    exact ⟨qclean_got n rem bs hiff, rem', hinv', by rwa [hres] at hrem⟩
  | fill =>
    obtain ⟨h1, h2, h3⟩ := Chunked.fillBuf_sim bufSim c m hok
    obtain ⟨bs, hr1, hr2, hr3, hr4⟩ := chF_fill last hl trail m hm _ rem hch
    rw [← h1] at hr1
    rw [← h2] at hr4
    rw [step_fill, chunked_fill_eq, hr1]
    exact ⟨qclean_peek rem bs hr2 hr3, rem, ⟨_, rfl, h3, hr4⟩, rfl⟩
  | consume k =>
    obtain ⟨rem', hr1, hr2⟩ := chF_consume last trail _ rem k hch
    exact ⟨qclean_took _ _ _, rem', ⟨c.consume k, rfl, hok, hr2⟩, hr1⟩

theorem chClean_fresh (cs : List ChunkS) (hcs : ∀ c ∈ cs, c.WF L) (last : LastS)
    (trail : List Item) (r1 : BufR) (hok : r1.Ok)
    (hfl : r1.flat = bytesI (encChunks cs ++ last.enc) ++ trail) :
    ChClean last trail (.chunked { inner := r1 }) (payloadOf cs) := by
  refine ⟨_, rfl, hok, .inl ?_⟩
  have h : r1.flat = bytesI (encChunks cs) ++ (bytesI last.enc ++ trail) := by
    rw [hfl]; simp [bytesI_append]
  have := rep_fresh cs hcs (bytesI last.enc ++ trail)
  rw [← h] at this
  exact this

/-! ## Complete chunks, then anything: what has arrived can be read -/

/-- the chunks whose payload `P` is still to be handed out are in the stream; `rest` follows them -/
abbrev ChRep (rest : List Item) : Body → Bytes → Prop := ChBody fun c P => Rep c P rest

theorem chRep_fresh (cs : List ChunkS) (hcs : ∀ c ∈ cs, c.WF L) (rest : List Item) (r1 : BufR)
    (hok : r1.Ok) (hfl : r1.flat = bytesI (encChunks cs) ++ rest) :
    ChRep rest (.chunked { inner := r1 }) (payloadOf cs) :=
  ⟨_, rfl, hok, by have := rep_fresh cs hcs rest; rwa [← hfl] at this⟩

/-- while payload of complete chunks is left, a read returns a piece of it -/
theorem chRep_while (rest : List Item) (m : Nat) (hm : 0 < m) :
    TracksWhile (readStep m) Ev.bytes (fun _ _ => True) (ChRep rest)
      (fun n rem e => ∃ bs, e = .ok bs ∧ (0 < n → bs ≠ []) ∧ bs.length ≤ n ∧ bs <+: rem) := by
  refine chunked_step_while m fun c P n hrep hP _ => ?_
  obtain ⟨out, P', hr1, rfl, hle, hne, hrep'⟩ := step_progress c P rest m n hm hrep hP
  rw [flatStep, hr1]
  exact ⟨⟨out, rfl, hne, hle, List.prefix_append _ _⟩, P', hrep', rfl⟩

end Atto
