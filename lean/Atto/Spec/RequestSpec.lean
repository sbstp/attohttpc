/-
  Atto/Spec/RequestSpec.lean — an HTTP/1.1 *request* parser, specification side: what a strict
  RFC 9112 server reads from a connection.  Written from the RFC (§3 request line, §5 field
  syntax, §6 message body, §7.1 chunked coding), not from the model's writer.

  `parseRequest inp = some (req, leftover)`: exactly one request was recognised at the start of `inp`
  and `leftover` is what follows it on the connection (`[]` = nothing but that request was sent).

  What it REJECTS (returns `none`), on purpose (strict reader):
    * a request line that is not `token SP target SP "HTTP/1.1"` (one SP each, other versions,
      empty method / target, a method with a non-token byte, CR or LF or SP inside the target;
      the target is otherwise not inspected: any byte except SP / CR / LF is let through);
    * a bare CR or LF inside a line (lines end at the first CRLF);
    * a field line without `:`; an empty or non-token field name (so also: whitespace before the
      colon, obs-fold continuation lines); a field value with a byte that is not
      VCHAR / obs-text / SP / HTAB;  optional whitespace around the value is stripped (OWS);
    * `content-length` (any letter case) present more than once, or not 1*DIGIT;
    * `transfer-encoding` present more than once or with a value other than `chunked`
      (any letter case);  both `content-length` and `transfer-encoding` present;
    * a body shorter than its `content-length`;
    * chunked: a size line that is not 1*HEXDIG (no chunk extensions), data not followed by CRLF,
      a last-chunk not directly followed by CRLF (no trailer section), a truncated chunk.
  A chunk of size 0 followed by CRLF TERMINATES the body wherever it occurs: a premature zero
  chunk leaves the remaining chunks in `leftover`.
  Without either framing field the body is empty (§6.3 rule 7) and everything after the head is
  leftover.
-/
import Atto.Std.HeaderMap
import Atto.Lemmas.Str
namespace Atto

structure ParsedReq where
  method : Bytes
  target : Bytes
  headers : Headers
  body : Bytes
  deriving Repr, DecidableEq

/-! ### lexical classes (RFC 9110 §5.6.2, §5.5; RFC 5234 B.1) -/

def rqIsDigit (b : UInt8) : Bool := 48 ≤ b && b ≤ 57
def rqIsAlpha (b : UInt8) : Bool := (65 ≤ b && b ≤ 90) || (97 ≤ b && b ≤ 122)

/-- tchar = "!" / "#" / "$" / "%" / "&" / "'" / "*" / "+" / "-" / "." / "^" / "_" / "`" / "|" / "~"
    / DIGIT / ALPHA -/
def rqIsTokenByte (b : UInt8) : Bool :=
  rqIsDigit b || rqIsAlpha b || [33, 35, 36, 37, 38, 39, 42, 43, 45, 46, 94, 95, 96, 124, 126].contains b

/-- field-vchar / SP / HTAB:  VCHAR (0x21–0x7E), obs-text (0x80–0xFF), SP, HTAB -/
def rqIsFieldByte (b : UInt8) : Bool := (33 ≤ b && b ≤ 126) || 128 ≤ b || b == 32 || b == 9

/-- OWS = *( SP / HTAB ) -/
def rqIsOWS (b : UInt8) : Bool := b == 32 || b == 9

def rqDecVal? (b : UInt8) : Option Nat := if rqIsDigit b then some (b.toNat - 48) else none

def rqHexVal? (b : UInt8) : Option Nat :=
  if rqIsDigit b then some (b.toNat - 48)
  else if 97 ≤ b && b ≤ 102 then some (b.toNat - 87)
  else if 65 ≤ b && b ≤ 70 then some (b.toNat - 55)
  else none

/-- value of 1*digit in the given radix, most significant digit first; `none` on a non-digit -/
def rqRadixAux (dv : UInt8 → Option Nat) (base : Nat) : Bytes → Nat → Option Nat
  | [], acc => some acc
  | b :: bs, acc =>
    match dv b with
    | some d => rqRadixAux dv base bs (acc * base + d)
    | none => none

def rqParseRadix (dv : UInt8 → Option Nat) (base : Nat) (bs : Bytes) : Option Nat :=
  if bs = [] then none else rqRadixAux dv base bs 0

/-- 1*DIGIT -/
def rqParseDec (bs : Bytes) : Option Nat := rqParseRadix rqDecVal? 10 bs
/-- 1*HEXDIG -/
def rqParseHex (bs : Bytes) : Option Nat := rqParseRadix rqHexVal? 16 bs

/-! ### lines -/

/-- Split at the first CRLF: the line before it and everything after it. -/
def rqSplitCRLF : Bytes → Option (Bytes × Bytes)
  | [] => none
  | b :: rest =>
    if b = 13 ∧ rest.head? = some 10 then some ([], rest.drop 1)
    else (rqSplitCRLF rest).map (fun p => (b :: p.1, p.2))

/-- no bare CR / LF inside a line -/
def rqNoCRLF (line : Bytes) : Bool := line.all (fun b => b != 13 && b != 10)

def rqTrimOWS (bs : Bytes) : Bytes := ((bs.dropWhile rqIsOWS).reverse.dropWhile rqIsOWS).reverse

/-- request-line = method SP request-target SP "HTTP/1.1"  (without the CRLF) -/
def rqParseRequestLine (line : Bytes) : Option (Bytes × Bytes) :=
  let m := line.takeWhile (· != 32)
  match line.dropWhile (· != 32) with
  | [] => none
  | _ :: r2 =>
    let t := r2.takeWhile (· != 32)
    let r3 := r2.dropWhile (· != 32)
    if m ≠ [] ∧ m.all rqIsTokenByte ∧ t ≠ [] ∧ rqNoCRLF line ∧ r3 = 32 :: str "HTTP/1.1" then some (m, t)
    else none

/-- field-line = field-name ":" OWS field-value OWS  (without the CRLF) -/
def rqParseFieldLine (line : Bytes) : Option (Bytes × Bytes) :=
  let name := line.takeWhile (· != 58)
  match line.dropWhile (· != 58) with
  | [] => none
  | _ :: r =>
    let value := rqTrimOWS r
    if name ≠ [] ∧ name.all rqIsTokenByte ∧ value.all rqIsFieldByte then some (name, value) else none

/-- field lines up to and including the empty line -/
def rqParseFields : Nat → Bytes → Option (Headers × Bytes)
  | 0, _ => none
  | fuel + 1, inp =>
    match rqSplitCRLF inp with
    | none => none
    | some (line, rest) =>
      if line = [] then some ([], rest)
      else match rqParseFieldLine line with
        | none => none
        | some f => (rqParseFields fuel rest).map (fun p => (f :: p.1, p.2))

/-- all values of a field, the name compared case-insensitively (`n` in lower case) -/
def rqFieldValues (hs : Headers) (n : Bytes) : List Bytes :=
  hs.filterMap (fun p => if lowerBytes p.1 = n then some p.2 else none)

/-! ### message body (RFC 9112 §6, §7.1) -/

/-- chunked-body without extensions and trailers: the data of the chunks before the first
    zero-size chunk, and what follows that chunk's terminating CRLF. -/
def rqDecodeChunks : Nat → Bytes → Option (List Bytes × Bytes)
  | 0, _ => none
  | fuel + 1, inp =>
    match rqSplitCRLF inp with
    | none => none
    | some (sizeLine, rest) =>
      match rqParseHex sizeLine with
      | none => none
      | some 0 => if rest.take 2 = [13, 10] then some ([], rest.drop 2) else none
      | some n =>
        if rest.length < n + 2 ∨ (rest.drop n).take 2 ≠ [13, 10] then none
        else (rqDecodeChunks fuel (rest.drop (n + 2))).map (fun p => (rest.take n :: p.1, p.2))

/-- every chunk takes at least 5 bytes: fuel `length + 1` is never exhausted on a parsable input -/
def decodeChunks (inp : Bytes) : Option (List Bytes × Bytes) := rqDecodeChunks (inp.length + 1) inp

inductive RqFraming where
  | none
  | length (n : Nat)
  | chunked
  deriving Repr, DecidableEq

/-- §6.3: which framing the field section announces; `none` (outer) = reject. -/
def rqFraming (hs : Headers) : Option RqFraming :=
  match rqFieldValues hs (str "content-length"), rqFieldValues hs (str "transfer-encoding") with
  | [], [] => some .none
  | [v], [] => (rqParseDec v).map .length
  | [], [v] => if lowerBytes v = str "chunked" then some .chunked else none
  | _, _ => none

def rqParseBody (hs : Headers) (inp : Bytes) : Option (Bytes × Bytes) :=
  match rqFraming hs with
  | none => none
  | some .none => some ([], inp)
  | some (.length n) => if inp.length < n then none else some (inp.take n, inp.drop n)
  | some .chunked => (decodeChunks inp).map (fun p => (p.1.flatten, p.2))

/-- One request from the start of `inp`, and the leftover bytes. -/
def parseRequest (inp : Bytes) : Option (ParsedReq × Bytes) :=
  match rqSplitCRLF inp with
  | none => none
  | some (line, rest) =>
    match rqParseRequestLine line with
    | none => none
    | some (m, t) =>
      match rqParseFields (rest.length + 1) rest with
      | none => none
      | some (hs, rest2) =>
        match rqParseBody hs rest2 with
        | none => none
        | some (body, left) => some ({ method := m, target := t, headers := hs, body := body }, left)

/-! ### sanity: evaluation -/

/-- info: some ({ method := [71, 69, 84], target := [47, 120], headers := [([104], [97])], body := [] }, [90]) -/
#guard_msgs in
#eval parseRequest (str "GET /x HTTP/1.1\r\nh: \ta \r\n\r\nZ")

/-- a premature zero chunk ends the body: the rest is leftover -/
example : (parseRequest (str "POST / HTTP/1.1\r\nTransfer-Encoding: Chunked\r\n\r\n1\r\na\r\n0\r\n\r\n1\r\nb\r\n0\r\n\r\n")).map
    (fun p => (p.1.body, p.2)) = some (str "a", str "1\r\nb\r\n0\r\n\r\n") := by
  simp only [str_data]; decide +kernel

example : (parseRequest (str "POST / HTTP/1.1\r\ncontent-length: 3\r\n\r\nabcd")).map
    (fun p => (p.1.body, p.2)) = some (str "abc", str "d") := by decide +kernel

/-- both framing fields: rejected -/
example : parseRequest (str "POST / HTTP/1.1\r\ncontent-length: 1\r\ntransfer-encoding: chunked\r\n\r\n0\r\n\r\n")
    = none := by simp only [str_data]; decide +kernel
/-- two spaces, HTTP/1.0, bare LF, obs-fold, space before colon: rejected -/
example : parseRequest (str "GET  / HTTP/1.1\r\n\r\n") = none := by decide +kernel
example : parseRequest (str "GET / HTTP/1.0\r\n\r\n") = none := by decide +kernel
example : parseRequest (str "GET / HTTP/1.1\r\na: b\nc: d\r\n\r\n") = none := by decide +kernel
example : parseRequest (str "GET / HTTP/1.1\r\na: b\r\n c\r\n\r\n") = none := by decide +kernel
example : parseRequest (str "GET / HTTP/1.1\r\na : b\r\n\r\n") = none := by decide +kernel
/-- chunk extension, trailer: rejected -/
example : decodeChunks (str "1;x\r\na\r\n0\r\n\r\n") = none := by decide +kernel
example : decodeChunks (str "0\r\nt: v\r\n\r\n") = none := by decide +kernel
example : decodeChunks (str "a\r\n0123456789\r\n0\r\n\r\nXY") = some ([str "0123456789"], str "XY") := by
  decide +kernel

end Atto
