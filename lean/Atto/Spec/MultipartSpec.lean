/-
  Atto/Spec/MultipartSpec.lean — a multipart/form-data *decoder*, specification side: what a
  receiving server reads out of the body.  Written from RFC 7578 §4 and RFC 2046 §5.1.1, not from
  the model's writer.

    multipart-body := [preamble CRLF] dash-boundary CRLF body-part *(delimiter CRLF body-part)
                      close-delimiter [CRLF epilogue]
    dash-boundary  := "--" boundary           delimiter := CRLF dash-boundary
    close-delimiter := delimiter "--"
    body-part      := *(header CRLF) CRLF data      -- data runs up to the next delimiter

  * no preamble is accepted; the CRLF in front of the first dash-boundary is optional;
  * an empty form is `[CRLF] dash-boundary "--"` (what every implementation emits and accepts);
  * anything after the close delimiter (epilogue) is ignored;
  * no transport padding after a boundary;
  * part headers: field names compared case-insensitively, leading SP / HTAB of the value skipped;
    `Content-Disposition: form-data; name="…"[; filename="…"]` is mandatory (RFC 7578 §4.2), the
    quoted strings run to the next `"` (no escapes); `Content-Type` is optional (§4.4) and returned
    verbatim; other header lines are ignored (§4.8);
  * the data of a part is everything up to the FIRST occurrence of the delimiter `CRLF "--" boundary`
    (as a plain byte string: RFC 2046 requires that it does not occur in the data);
  * a missing close delimiter is an error (`none`).
-/
import Atto.Std.HeaderMap
import Atto.Lemmas.Str
namespace Atto

structure Part where
  name : Bytes
  filename : Option Bytes
  contentType : Option Bytes
  data : Bytes
  deriving Repr, DecidableEq

/-- first occurrence of the byte string `pat` in `s`: what precedes it and what follows it -/
def mpSplitAt (pat : Bytes) : Bytes → Option (Bytes × Bytes)
  | [] => if pat = [] then some ([], []) else none
  | c :: cs =>
    if pat.isPrefixOf (c :: cs) then some ([], (c :: cs).drop pat.length)
    else (mpSplitAt pat cs).map (fun p => (c :: p.1, p.2))

/-- `pat` occurs in `s` as a contiguous byte string -/
def occursIn (pat s : Bytes) : Bool := (mpSplitAt pat s).isSome

/-- header lines up to and including the empty line; what follows it -/
def mpHeaderLines : Nat → Bytes → Option (List Bytes × Bytes)
  | 0, _ => none
  | fuel + 1, inp =>
    match mpSplitAt [13, 10] inp with
    | none => none
    | some (line, rest) =>
      if line = [] then some ([], rest)
      else (mpHeaderLines fuel rest).map (fun p => (line :: p.1, p.2))

/-- `lname ":" OWS value` (field name in any letter case; `lname` in lower case) -/
def mpFieldValue (lname line : Bytes) : Option Bytes :=
  if lowerBytes (line.take (lname.length + 1)) = lname ++ [58] then
    some ((line.drop (lname.length + 1)).dropWhile (fun c => c == 32 || c == 9))
  else none

/-- value of the first header line with that field name -/
def mpField (lname : Bytes) (lines : List Bytes) : Option Bytes :=
  lines.findSome? (mpFieldValue lname)

def mpExpect (p s : Bytes) : Option Bytes :=
  if p.isPrefixOf s then some (s.drop p.length) else none

/-- the inside of a quoted string whose opening `"` was just consumed, and what follows the closing `"` -/
def mpQuoted (s : Bytes) : Option (Bytes × Bytes) :=
  match s.dropWhile (· != 34) with
  | [] => none
  | _ :: r => some (s.takeWhile (· != 34), r)

/-- `form-data; name="…"[; filename="…"]` -/
def mpDisposition (v : Bytes) : Option (Bytes × Option Bytes) :=
  match mpExpect (str "form-data; name=\"") v with
  | none => none
  | some r =>
    match mpQuoted r with
    | none => none
    | some (n, r) =>
      if r = [] then some (n, none) else
      match mpExpect (str "; filename=\"") r with
      | none => none
      | some r =>
        match mpQuoted r with
        | none => none
        | some (fn, r) => if r = [] then some (n, some fn) else none

/-- `inp` is what follows a delimiter. -/
def mpParts (delim : Bytes) : Nat → Bytes → Option (List Part)
  | 0, _ => none
  | fuel + 1, inp =>
    if inp.take 2 = [45, 45] then some []
    else if inp.take 2 = [13, 10] then
      match mpHeaderLines inp.length (inp.drop 2) with
      | none => none
      | some (lines, rest) =>
        match (mpField (str "content-disposition") lines).bind mpDisposition with
        | none => none
        | some (name, filename) =>
          match mpSplitAt delim rest with
          | none => none
          | some (data, after) =>
            (mpParts delim fuel after).map (fun ps =>
              { name := name, filename := filename,
                contentType := mpField (str "content-type") lines, data := data } :: ps)
    else none

def decodeMultipart (boundary body : Bytes) : Option (List Part) :=
  let dash : Bytes := [45, 45] ++ boundary
  let delim : Bytes := [13, 10] ++ dash
  if delim.isPrefixOf body then mpParts delim (body.length + 1) (body.drop delim.length)
  else if dash.isPrefixOf body then mpParts delim (body.length + 1) (body.drop dash.length)
  else none

/-! ### sanity: evaluation -/

/-- the example of RFC 7578 §4.1-4.4 in spirit: a text field and a file -/
example : decodeMultipart (str "AaB03x") (str ("--AaB03x\r\n" ++
    "content-disposition: form-data; name=\"field1\"\r\n\r\nJoe owes =E2=82=AC100.\r\n--AaB03x\r\n" ++
    "Content-Disposition:form-data; name=\"pics\"; filename=\"file1.txt\"\r\nContent-Type: \t text/plain\r\n" ++
    "X-Other: 1\r\n\r\n... contents\r\n--AaB03 of file1.txt ...\r\n--AaB03x--\r\nepilogue"))
  = some [⟨str "field1", none, none, str "Joe owes =E2=82=AC100."⟩,
          ⟨str "pics", some (str "file1.txt"), some (str "text/plain"),
            str "... contents\r\n--AaB03 of file1.txt ..."⟩] := by
  simp only [str_data]; decide +kernel

/-- empty form: only the close delimiter, with or without the leading CRLF -/
example : decodeMultipart (str "b") (str "\r\n--b--") = some [] := by decide +kernel
example : decodeMultipart (str "b") (str "--b--\r\n") = some [] := by decide +kernel
/-- missing close delimiter, wrong boundary, missing / malformed Content-Disposition: rejected -/
example : decodeMultipart (str "b") (str "--b\r\nContent-Disposition: form-data; name=\"a\"\r\n\r\nx") = none := by
  decide +kernel
example : decodeMultipart (str "c") (str "\r\n--b--") = none := by decide +kernel
example : decodeMultipart (str "b") (str "--b\r\nContent-Type: text/plain\r\n\r\nx\r\n--b--") = none := by
  decide +kernel
example : decodeMultipart (str "b") (str "--b\r\nContent-Disposition: form-data; name=a\r\n\r\nx\r\n--b--") = none := by
  decide +kernel
example : decodeMultipart (str "b") (str "--b\r\nContent-Disposition: attachment; name=\"a\"\r\n\r\nx\r\n--b--") = none := by
  decide +kernel
/-- empty data, data that is only CRLFs, data containing a look-alike delimiter of another boundary -/
example : decodeMultipart (str "b7") (str ("\r\n--b7\r\nContent-Disposition: form-data; name=\"a\"\r\n\r\n\r\n--b7\r\n" ++
    "Content-Disposition: form-data; name=\"\"\r\n\r\n\r\n\r\n--b8\r\n--\r\n--b7--"))
  = some [⟨str "a", none, none, []⟩, ⟨[], none, none, str "\r\n\r\n--b8\r\n--"⟩] := by
  simp only [str_data]; decide +kernel

example : occursIn (str "\r\n--b") (str "xx\r\r\n--b") = true := by decide +kernel
example : occursIn (str "\r\n--b") (str "xx\r\r\n-b\r\n--") = false := by decide +kernel

end Atto
