/-
  Atto/Spec/Rfc3986.lean — RFC 3986 §5.2.4 "Remove Dot Segments", as a specification on the list
  of path segments.  The `url` crate's `join` is a PARAMETER of the model (`Hop.resolved`), so this
  file is not used by any model definition; it serves the harness comparison only.

  An absolute path `"/" seg *( "/" seg )` is split at every `/` after the leading one; the segments
  are scanned left to right with an output stack: `.` is dropped, `..` drops the segment itself and
  pops the stack (nothing to pop at the root), anything else is pushed.  When the LAST segment is
  `.` or `..` the result ends with an empty segment (i.e. a trailing `/`), exactly as the RFC's
  rules 2B/2C ("/." → "/", "/.." → "/") prescribe.  Paths that do not start with `/` are returned
  unchanged (the RFC applies the algorithm to merged paths, which are absolute whenever the base
  has an authority — always the case for http(s)).
-/
import Atto.Lemmas.Str
namespace Atto
namespace Rfc3986

/-! ### split at `/` and join with `/` -/

def splitSlash : Bytes → List Bytes
  | [] => [[]]
  | b :: bs =>
    if b = 47 then [] :: splitSlash bs
    else match splitSlash bs with
      | [] => [[b]]
      | s :: r => (b :: s) :: r

def joinSlash : List Bytes → Bytes
  | [] => []
  | [s] => s
  | s :: t :: r => s ++ 47 :: joinSlash (t :: r)

theorem splitSlash_ne_nil (bs : Bytes) : splitSlash bs ≠ [] := by
  cases bs with
  | nil => simp [splitSlash]
  | cons b bs =>
    unfold splitSlash
    by_cases h : b = 47
    · simp [h]
    · simp only [h, if_false]; split <;> simp

/-- The value of `splitSlash` is never empty, so the `match` in it has one live branch. -/
theorem splitSlash_cons (b : UInt8) (bs : Bytes) :
    ∃ s r, splitSlash bs = s :: r ∧
      splitSlash (b :: bs) = if b = 47 then [] :: s :: r else (b :: s) :: r := by
  cases hs : splitSlash bs with
  | nil => exact absurd hs (splitSlash_ne_nil bs)
  | cons s r => exact ⟨s, r, rfl, by simp only [splitSlash, hs]⟩

theorem joinSlash_cons_cons (b : UInt8) (s : Bytes) (r : List Bytes) :
    joinSlash ((b :: s) :: r) = b :: joinSlash (s :: r) := by
  cases r <;> simp [joinSlash]

theorem join_split (bs : Bytes) : joinSlash (splitSlash bs) = bs := by
  induction bs with
  | nil => rfl
  | cons b bs ih =>
    obtain ⟨s, r, hs, hb⟩ := splitSlash_cons b bs
    rw [hs] at ih
    rw [hb]
    split
    · next h => rw [h, ← ih]; rfl
    · rw [joinSlash_cons_cons, ih]

theorem splitSlash_noSlash (bs : Bytes) : ∀ s ∈ splitSlash bs, (47 : UInt8) ∉ s := by
  induction bs with
  | nil => intro s hs; rw [List.mem_singleton.mp hs]; exact List.not_mem_nil
  | cons b bs ih =>
    obtain ⟨s, r, hs, hb⟩ := splitSlash_cons b bs
    rw [hs] at ih
    rw [hb]
    intro x hx
    split at hx
    · rcases List.mem_cons.mp hx with rfl | hx
      · exact List.not_mem_nil
      · exact ih x hx
    · next h =>
      rcases List.mem_cons.mp hx with rfl | hx
      · intro h47
        rcases List.mem_cons.mp h47 with e | h47
        · exact h e.symm
        · exact ih s List.mem_cons_self h47
      · exact ih x (List.mem_cons_of_mem _ hx)

theorem split_single (s : Bytes) : (47 : UInt8) ∉ s → splitSlash s = [s] := by
  induction s with
  | nil => intro _; rfl
  | cons b s ih =>
    intro h
    simp only [List.mem_cons, not_or] at h
    have hb : b ≠ 47 := fun e => h.1 e.symm
    unfold splitSlash
    simp only [hb, if_false, ih h.2]

theorem split_append (s X : Bytes) : (47 : UInt8) ∉ s →
    splitSlash (s ++ 47 :: X) = s :: splitSlash X := by
  induction s with
  | nil => intro _; simp [splitSlash]
  | cons b s ih =>
    intro h
    simp only [List.mem_cons, not_or] at h
    have hb : b ≠ 47 := fun e => h.1 e.symm
    rw [List.cons_append, splitSlash]
    simp only [hb, if_false, ih h.2]

theorem split_join (l : List Bytes) : l ≠ [] → (∀ s ∈ l, (47 : UInt8) ∉ s) →
    splitSlash (joinSlash l) = l := by
  induction l with
  | nil => intro h; exact absurd rfl h
  | cons s r ih =>
    intro _ hall
    cases r with
    | nil => simp only [joinSlash]; exact split_single s (hall s (by simp))
    | cons t r =>
      simp only [joinSlash]
      rw [split_append s _ (hall s (by simp)), ih (by simp) (fun x hx => hall x (by simp [hx]))]

/-! ### dot segments -/

def isDot (s : Bytes) : Bool := s == [46] || s == [46, 46]

/-- One step of the scan; `out` is the output stack (last pushed segment first). -/
def dotStep (out : List Bytes) (seg : Bytes) : List Bytes :=
  if seg = [46] then out else if seg = [46, 46] then out.drop 1 else seg :: out

def removeDotSegs (segs : List Bytes) : List Bytes :=
  (segs.foldl dotStep []).reverse ++
    (match segs.getLast? with
     | some s => if isDot s then [[]] else []
     | none => [])

/-- RFC 3986 §5.2.4 on an absolute path. -/
def removeDotSegments (p : Bytes) : Bytes :=
  match p with
  | 47 :: rest => 47 :: joinSlash (removeDotSegs (splitSlash rest))
  | _ => p

theorem isDot_false_iff (s : Bytes) : isDot s = false ↔ s ≠ [46] ∧ s ≠ [46, 46] := by
  simp [isDot]

theorem mem_dotStep {out : List Bytes} {seg s : Bytes} (h : s ∈ dotStep out seg) :
    s ∈ out ∨ (s = seg ∧ isDot seg = false) := by
  unfold dotStep at h
  split at h
  · exact .inl h
  · next h1 =>
    split at h
    · exact .inl (List.mem_of_mem_drop h)
    · next h2 =>
      rcases List.mem_cons.mp h with h | h
      · exact .inr ⟨h, (isDot_false_iff _).mpr ⟨h1, h2⟩⟩
      · exact .inl h

theorem mem_foldl {l acc : List Bytes} {s : Bytes} (h : s ∈ l.foldl dotStep acc) :
    s ∈ acc ∨ (s ∈ l ∧ isDot s = false) :=
  List.foldlRecOn (motive := fun out => ∀ s ∈ out, s ∈ acc ∨ (s ∈ l ∧ isDot s = false)) l dotStep
    (fun _ hs => .inl hs)
    (fun out ih seg hseg s hs => by
      rcases mem_dotStep hs with hs | ⟨rfl, hd⟩
      · exact ih s hs
      · exact .inr ⟨hseg, hd⟩) s h

/-- Every output segment is an input segment that is no dot segment, or empty. -/
theorem mem_removeDotSegs {segs : List Bytes} {s : Bytes} (h : s ∈ removeDotSegs segs) :
    (s ∈ segs ∧ isDot s = false) ∨ s = [] := by
  unfold removeDotSegs at h
  rcases List.mem_append.mp h with h | h
  · rcases mem_foldl (List.mem_reverse.mp h) with h | h
    · cases h
    · exact .inl h
  · split at h
    · split at h
      · exact .inr (List.mem_singleton.mp h)
      · cases h
    · cases h

/-- No `.` or `..` segment survives. -/
theorem removeDotSegs_noDot (segs : List Bytes) :
    ∀ s ∈ removeDotSegs segs, s ≠ [46] ∧ s ≠ [46, 46] := by
  intro s hs
  rw [← isDot_false_iff]
  rcases mem_removeDotSegs hs with h | rfl
  · exact h.2
  · rfl

theorem foldl_fixed (l : List Bytes) : (∀ s ∈ l, isDot s = false) →
    ∀ acc, l.foldl dotStep acc = l.reverse ++ acc := by
  induction l with
  | nil => intro _ acc; rfl
  | cons a l ih =>
    intro h acc
    have ha := (isDot_false_iff a).mp (h a (by simp))
    rw [List.foldl_cons, ih (fun s hs => h s (by simp [hs]))]
    simp [dotStep, ha.1, ha.2]

/-- A segment list without dot segments is left as it is. -/
theorem removeDotSegs_fixed (l : List Bytes) : (∀ s ∈ l, isDot s = false) → removeDotSegs l = l := by
  intro h
  unfold removeDotSegs
  rw [foldl_fixed l h []]
  cases hl : l.getLast? with
  | none => simp
  | some s =>
    have : isDot s = false := h s (List.mem_of_getLast? hl)
    simp [this]

/-- Idempotent. -/
theorem removeDotSegs_idem (segs : List Bytes) :
    removeDotSegs (removeDotSegs segs) = removeDotSegs segs :=
  removeDotSegs_fixed _ (fun s hs => (isDot_false_iff s).mpr (removeDotSegs_noDot segs s hs))

theorem removeDotSegs_ne_nil (segs : List Bytes) : segs ≠ [] → removeDotSegs segs ≠ [] := by
  intro hne
  obtain ⟨ys, s, rfl⟩ : ∃ ys s, segs = ys ++ [s] :=
    ⟨_, _, (List.dropLast_concat_getLast hne).symm⟩
  unfold removeDotSegs
  rw [List.getLast?_concat, List.foldl_append]
  -- a last segment that is a dot leaves the empty segment, any other is on top of the stack
  cases hd : isDot s with
  | true => simp [hd]
  | false =>
    have hd' := (isDot_false_iff _).mp hd
    simp [dotStep, hd'.1, hd'.2]

/-! ### the path-level statements -/

theorem removeDotSegments_abs (rest : Bytes) :
    removeDotSegments (47 :: rest) = 47 :: joinSlash (removeDotSegs (splitSlash rest)) := rfl

theorem removeDotSegments_rel {b : UInt8} (hb : b ≠ 47) (rest : Bytes) :
    removeDotSegments (b :: rest) = b :: rest := by
  unfold removeDotSegments
  split
  · next h => exact absurd (List.cons.inj h).1 hb
  · rfl

/-- The segments of the result are exactly `removeDotSegs` of the segments of the input. -/
theorem removeDotSegments_segments (rest : Bytes) :
    ∃ out, removeDotSegments (47 :: rest) = 47 :: out ∧
      splitSlash out = removeDotSegs (splitSlash rest) := by
  refine ⟨_, rfl, split_join _ (removeDotSegs_ne_nil _ (splitSlash_ne_nil rest)) fun s hs => ?_⟩
  rcases mem_removeDotSegs hs with h | rfl
  · exact splitSlash_noSlash rest s h.1
  · exact List.not_mem_nil

/-- No `.` or `..` segment survives in the path. -/
theorem removeDotSegments_noDot (rest : Bytes) :
    ∃ out, removeDotSegments (47 :: rest) = 47 :: out ∧
      ∀ s ∈ splitSlash out, s ≠ [46] ∧ s ≠ [46, 46] := by
  obtain ⟨out, h1, h2⟩ := removeDotSegments_segments rest
  exact ⟨out, h1, fun s hs => removeDotSegs_noDot _ s (h2 ▸ hs)⟩

/-- Idempotent on every path. -/
theorem removeDotSegments_idem (p : Bytes) :
    removeDotSegments (removeDotSegments p) = removeDotSegments p := by
  cases p with
  | nil => rfl
  | cons b rest =>
    by_cases hb : b = 47
    · subst hb
      obtain ⟨out, h1, h2⟩ := removeDotSegments_segments rest
      rw [h1, removeDotSegments_abs, h2, removeDotSegs_idem, ← removeDotSegments_abs, h1]
    · rw [removeDotSegments_rel hb, removeDotSegments_rel hb]

/-- A path without dot segments is unchanged. -/
theorem removeDotSegments_fixed (rest : Bytes) :
    (∀ s ∈ splitSlash rest, s ≠ [46] ∧ s ≠ [46, 46]) → removeDotSegments (47 :: rest) = 47 :: rest := by
  intro h
  rw [removeDotSegments_abs, removeDotSegs_fixed _ (fun s hs => (isDot_false_iff s).mpr (h s hs)),
    join_split]

/-! ### the RFC's examples (§5.2.4, §5.4) -/

example : removeDotSegments (str "/a/b/c/./../../g") = str "/a/g" := by
  simp only [str_data]; decide +kernel
example : removeDotSegments (str "/mid/content=5/../6") = str "/mid/6" := by
  simp only [str_data]; decide +kernel
example : removeDotSegments (str "/b/c/d;p") = str "/b/c/d;p" := by
  simp only [str_data]; decide +kernel
example : removeDotSegments (str "/b/c/.") = str "/b/c/" := by
  simp only [str_data]; decide +kernel
example : removeDotSegments (str "/b/c/..") = str "/b/" := by
  simp only [str_data]; decide +kernel
example : removeDotSegments (str "/b/c/../g") = str "/b/g" := by
  simp only [str_data]; decide +kernel
example : removeDotSegments (str "/b/c/../..") = str "/" := by
  simp only [str_data]; decide +kernel
example : removeDotSegments (str "/b/c/../../../g") = str "/g" := by
  simp only [str_data]; decide +kernel
example : removeDotSegments (str "/b/c/../../../../g") = str "/g" := by
  simp only [str_data]; decide +kernel
example : removeDotSegments (str "/b/c/g.") = str "/b/c/g." := by
  simp only [str_data]; decide +kernel
example : removeDotSegments (str "/b/c/..g") = str "/b/c/..g" := by
  simp only [str_data]; decide +kernel
example : removeDotSegments (str "/b/c/./g/.") = str "/b/c/g/" := by
  simp only [str_data]; decide +kernel
example : removeDotSegments (str "/b/c/g/../h") = str "/b/c/h" := by
  simp only [str_data]; decide +kernel
example : removeDotSegments (str "/b/c/g;x=1/../y") = str "/b/c/y" := by
  simp only [str_data]; decide +kernel
example : removeDotSegments (str "/a//b/./") = str "/a//b/" := by
  simp only [str_data]; decide +kernel
example : removeDotSegments (str "/") = str "/" := by
  simp only [str_data]; decide +kernel
example : removeDotSegments (str "/..") = str "/" := by
  simp only [str_data]; decide +kernel

end Rfc3986
end Atto
