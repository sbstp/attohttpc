/-
  Atto/Props/C05t.lean — "hostile peers cannot crash, hang or balloon the client", the trailer
  section of a chunked body (chunked_reader.rs `skip_trailers`): after the last-chunk the decoder
  skips field lines up to an empty line, reading each with `read_line` under `TRAILER_LINE_LIMIT` and
  at most `MAX_TRAILER_LINES + 1` of them. So

  * (a) a trailer section without end is cut after `MAX_TRAILER_LINES + 1` lines — `Ok(false)`, the
    refill fails with `InvalidData` (`.chunk`) — and nothing behind those lines is consumed;
  * (b) a trailer line without end is given up after exactly `TRAILER_LINE_LIMIT` bytes
    (`UnexpectedEof`), nothing behind them is consumed (the line is never buffered whole);
  * (c) `skip_trailers` never panics, on any input, flat stream or BufReader over any transport;
  * (d) on ANY stream `skip_trailers` consumes at most
    `(MAX_TRAILER_LINES + 1) * TRAILER_LINE_LIMIT` bytes, whatever its result.

  Stated on the flat source (`flatSrc` over `List Item`) like Props/C05 (q) and Props/C05b, (c) also
  on `bufSrc`. Helper lemmas: Lemmas/ChunkedFlat.lean (the trailer section), Lemmas/FlatPrims.lean.
-/
import Atto.Lemmas.NoPanic
import Atto.Lemmas.ChunkedAny
import Atto.Lemmas.ExampleFacts
namespace Atto

local notation "CL" => Consts.chunkSizeLineLimit

/-! ### (a) too many trailer lines -/

/-- (a), generic in the bound: `n + 1` iterations of the `skip_trailers` loop on `n + 1` field lines
    (non-empty, LF-free, within the line limit): `Ok(false)` right behind them, for EVERY `rest`. -/
theorem C05_trailers_too_many_gen (n : Nat) (ts : List Bytes) (rest : List Item)
    (hlen : ts.length = n + 1)
    (hts : ∀ t ∈ ts, t ≠ [] ∧ (10 : UInt8) ∉ t ∧ t.length + 2 ≤ Consts.trailerLineLimit) :
    skipTrailersLoop flatSrc (n + 1) (bytesI (encTrailers ts) ++ rest) = (.ok false, rest) := by
  rw [← hlen]
  exact skipTrailersLoop_lines ts hts 0 rest

namespace C05t
deriving instance DecidableEq for RR
/-- three field lines (one holds a bare CR) -/
def exLines : List Bytes := [str "A: 1", str "B:\r2", str "C"]
/-- what follows: another line, an error, the empty line, silence -/
def exRest : List Item := bytesI (str "D: 4\r\n") ++ [.err 5] ++ bytesI (str "\r\n") ++ [.pause]
end C05t

/-- non-vacuity at `n = 2`: three lines against three iterations -/
example := C05_trailers_too_many_gen 2 C05t.exLines C05t.exRest (by decide) (by decide +kernel)

/-- (a) A trailer section of `MAX_TRAILER_LINES + 1` field lines: `skip_trailers` returns `Ok(false)`
    and stops right behind them — the result does not depend on `rest` (more lines without end, the
    empty line, garbage, errors, silence): an endless trailer section is cut after a bounded amount of
    input. -/
theorem C05_trailers_too_many (ts : List Bytes) (rest : List Item)
    (hlen : ts.length = Consts.maxTrailerLines + 1)
    (hts : ∀ t ∈ ts, t ≠ [] ∧ (10 : UInt8) ∉ t ∧ t.length + 2 ≤ Consts.trailerLineLimit) :
    skipTrailers flatSrc (bytesI (encTrailers ts) ++ rest) = (.ok false, rest) :=
  C05_trailers_too_many_gen Consts.maxTrailerLines ts rest hlen hts

/-- non-vacuity: `MAX_TRAILER_LINES + 1` copies of `X: y` -/
example : (List.replicate (Consts.maxTrailerLines + 1) (str "X: y")).length = Consts.maxTrailerLines + 1 ∧
    ∀ t ∈ List.replicate (Consts.maxTrailerLines + 1) (str "X: y"),
      t ≠ [] ∧ (10 : UInt8) ∉ t ∧ t.length + 2 ≤ Consts.trailerLineLimit :=
  ⟨List.length_replicate, fun t ht => by rw [List.eq_of_mem_replicate ht]; decide +kernel⟩

/-- (a) one level up: the data part of the refill in the state after the last-chunk's size line
    (`remaining = 0`, `reached_eof`): `InvalidData` (`.chunk`), the stream position right behind the
    `MAX_TRAILER_LINES + 1` lines, an empty buffer. -/
theorem C05_trailers_too_many_refill (c : Chunked (List Item)) (ts : List Bytes) (rest : List Item)
    (maxBuf : Nat) (hr : c.remaining = 0) (he : c.reachedEof = true)
    (hi : c.inner = bytesI (encTrailers ts) ++ rest)
    (hlen : ts.length = Consts.maxTrailerLines + 1)
    (hts : ∀ t ∈ ts, t ≠ [] ∧ (10 : UInt8) ∉ t ∧ t.length + 2 ≤ Consts.trailerLineLimit) :
    Chunked.refillData flatSrc c maxBuf =
      (.err .chunk, { c with inner := rest, buffer := [], consumed := 0, remaining := 0,
                             reachedEof := true }) := by
  rw [refillData_flat_zero c maxBuf hr, he, hi, chunkEnd, if_pos rfl,
    C05_trailers_too_many ts rest hlen hts]

/-- (a) the whole `read`: a decoder at a chunk boundary, a well-formed last-chunk line
    (`1*"0" [ext] CRLF`: `l` without its own trailers) followed by `MAX_TRAILER_LINES + 1` field lines:
    the read fails with `InvalidData`, `rest` is untouched, the failure is latched, the buffer is
    empty. -/
theorem C05_trailers_too_many_read (c : Chunked (List Item)) (l : LastS) (ts : List Bytes)
    (rest : List Item) (maxBuf n : Nat) (hf : c.failed = false) (hb : c.buffer.length = c.consumed)
    (hr : c.remaining = 0) (he : c.reachedEof = false) (hl : l.WF CL)
    (hi : c.inner = bytesI (l.zeros ++ l.ext ++ [13, 10] ++ encTrailers ts) ++ rest)
    (hlen : ts.length = Consts.maxTrailerLines + 1)
    (hts : ∀ t ∈ ts, t ≠ [] ∧ (10 : UInt8) ∉ t ∧ t.length + 2 ≤ Consts.trailerLineLimit) :
    (c.read flatSrc maxBuf n).1 = .err .chunk ∧ (c.read flatSrc maxBuf n).2.inner = rest ∧
    (c.read flatSrc maxBuf n).2.failed = true ∧ (c.read flatSrc maxBuf n).2.buffer = [] := by
  have hi' : c.inner = bytesI (l.zeros ++ l.ext ++ [13, 10]) ++ (bytesI (encTrailers ts) ++ rest) := by
    rw [hi]; simp only [bytesI_append, List.append_assoc]
  rw [read_refill_err _ c _ maxBuf n .chunk hf ⟨hb, by simp [he]⟩
    ((refill_size_line c _ _ 0 _ maxBuf (SizeOK.of_last hl) hr hi').trans
      (C05_trailers_too_many_refill _ ts rest maxBuf rfl (by simp) rfl hlen hts))]
  exact ⟨rfl, rfl, rfl, rfl⟩

/-- a fresh decoder is at a chunk boundary, and `0 CRLF` is a well-formed last-chunk line -/
example (X : List Item) :
    let c : Chunked (List Item) := { inner := X }
    c.failed = false ∧ c.buffer.length = c.consumed ∧ c.remaining = 0 ∧ c.reachedEof = false ∧
      Ex.last.WF CL := ⟨rfl, rfl, rfl, rfl, Ex.last_wf⟩

/-! ### (b) a trailer line without end -/

/-- (b) `TRAILER_LINE_LIMIT` bytes without LF where a trailer line (or the empty line) is expected:
    `skip_trailers` fails with `UnexpectedEof` after exactly those bytes; `rest` (possibly an endless
    stream) is untouched — the `Take` of `read_line` is exhausted, the line is never buffered whole. -/
theorem C05_trailer_line_bounded (pre : Bytes) (rest : List Item)
    (hn : ∀ b ∈ pre, b ≠ 10) (hl : pre.length = Consts.trailerLineLimit) :
    skipTrailers flatSrc (bytesI pre ++ rest) = (.err .eof, rest) := by
  unfold skipTrailers
  rw [skipTrailersLoop, readLine_endless pre _ rest (fun h => hn 10 h rfl) (Nat.le_of_eq hl.symm),
    List.drop_of_length_le (Nat.le_of_eq hl)]
  rfl

example : (∀ b ∈ List.replicate Consts.trailerLineLimit (65 : UInt8), b ≠ 10) ∧
    (List.replicate Consts.trailerLineLimit (65 : UInt8)).length = Consts.trailerLineLimit :=
  ⟨fun b hb => by rw [List.eq_of_mem_replicate hb]; decide, List.length_replicate⟩

/-- (b) the same behind any acceptable number of complete trailer lines. -/
theorem C05_trailer_line_bounded_after (ts : List Bytes) (pre : Bytes) (rest : List Item)
    (hcnt : ts.length ≤ Consts.maxTrailerLines)
    (hts : ∀ t ∈ ts, t ≠ [] ∧ (10 : UInt8) ∉ t ∧ t.length + 2 ≤ Consts.trailerLineLimit)
    (hn : ∀ b ∈ pre, b ≠ 10) (hl : pre.length = Consts.trailerLineLimit) :
    skipTrailers flatSrc (bytesI (encTrailers ts ++ pre) ++ rest) = (.err .eof, rest) := by
  obtain ⟨j, hj⟩ : ∃ j, Consts.maxTrailerLines + 1 = ts.length + (j + 1) :=
    ⟨Consts.maxTrailerLines - ts.length, by omega⟩
  rw [skipTrailers, hj, bytesI_append, List.append_assoc, skipTrailersLoop_lines ts hts,
    skipTrailersLoop, readLine_endless pre _ rest (fun h => hn 10 h rfl) (Nat.le_of_eq hl.symm),
    List.drop_of_length_le (Nat.le_of_eq hl)]
  rfl

/-- non-vacuity: two complete lines, then the endless one -/
example : [str "A: 1", str "B: 2"].length ≤ Consts.maxTrailerLines ∧
    ∀ t ∈ [str "A: 1", str "B: 2"],
      t ≠ [] ∧ (10 : UInt8) ∉ t ∧ t.length + 2 ≤ Consts.trailerLineLimit := by decide +kernel

/-- (b) the whole `read`: a decoder at a chunk boundary, a well-formed last-chunk line, then
    `TRAILER_LINE_LIMIT` bytes without LF: the read fails with `UnexpectedEof`, `rest` is untouched,
    the failure is latched, the buffer is empty (compare `C05_endless_size_line`). -/
theorem C05_endless_trailer_line (c : Chunked (List Item)) (l : LastS) (pre : Bytes)
    (rest : List Item) (maxBuf n : Nat) (hf : c.failed = false) (hb : c.buffer.length = c.consumed)
    (hr : c.remaining = 0) (he : c.reachedEof = false) (hl : l.WF CL)
    (hi : c.inner = bytesI (l.zeros ++ l.ext ++ [13, 10] ++ pre) ++ rest)
    (hn : ∀ b ∈ pre, b ≠ 10) (hlen : pre.length = Consts.trailerLineLimit) :
    (c.read flatSrc maxBuf n).1 = .err .eof ∧ (c.read flatSrc maxBuf n).2.inner = rest ∧
    (c.read flatSrc maxBuf n).2.failed = true ∧ (c.read flatSrc maxBuf n).2.buffer = [] := by
  have hi' : c.inner = bytesI (l.zeros ++ l.ext ++ [13, 10]) ++ (bytesI pre ++ rest) := by
    rw [hi]; simp only [bytesI_append, List.append_assoc]
  have hrf : c.refill flatSrc maxBuf =
      (.err .eof, { c with inner := rest, buffer := [], consumed := 0, remaining := 0,
                           reachedEof := true }) := by
    rw [refill_size_line c _ _ 0 _ maxBuf (SizeOK.of_last hl) hr hi',
      refillData_flat_zero _ maxBuf rfl]
    simp only [Bool.or_true, BEq.rfl, chunkEnd, if_true, C05_trailer_line_bounded pre rest hn hlen]
  rw [read_refill_err _ c _ maxBuf n .eof hf ⟨hb, by simp [he]⟩ hrf]
  exact ⟨rfl, rfl, rfl, rfl⟩

/-! ### (c) no panic -/

/-- (c) `skip_trailers` never panics (the model's loop needs no fuel: it is the `for` loop itself),
    on any stream. -/
theorem C05_skipTrailers_no_panic (r : List Item) : (skipTrailers flatSrc r).1 ≠ .panic :=
  skipTrailers_flat_ne_panic r

/-- non-vacuity: on `exRest` the loop reads one line and returns the error that follows it -/
example : skipTrailers flatSrc C05t.exRest = (.err (.io 5), bytesI (str "\r\n") ++ [.pause]) := by
  have h : C05t.exRest =
      bytesI (str "D: 4" ++ [13, 10]) ++ (.err 5 :: (bytesI (str "\r\n") ++ [.pause])) := by
    decide +kernel
  rw [h, skipTrailers, skipTrailersLoop_line _ (by decide +kernel) (by decide +kernel)
    (by decide +kernel)]
  obtain ⟨k, hk⟩ := Nat.exists_eq_add_one_of_ne_zero (show Consts.maxTrailerLines ≠ 0 by decide)
  rw [hk, skipTrailersLoop]
  simp [readLine, flatSrc, specUntil, Consts.trailerLineLimit]

/-- (c) the same for the BufReader model over any transport, any capacity (the usual invariant
    `BufR.Ok`, kept): results and stream positions are those of the flat stream. -/
theorem C05_skipTrailers_no_panic_buf (r : BufR) (h : r.Ok) :
    (skipTrailers bufSrc r).1 ≠ .panic ∧ (skipTrailers bufSrc r).2.Ok ∧
    (skipTrailers bufSrc r).1 = (skipTrailers flatSrc r.flat).1 ∧
    (skipTrailers bufSrc r).2.flat = (skipTrailers flatSrc r.flat).2 := by
  obtain ⟨h1, h2, h3⟩ := skipTrailers_sim bufSim r h
  exact ⟨by rw [h1]; exact skipTrailers_flat_ne_panic _, h3, h1, h2⟩

example : (⟨[65, 58], 3, [.data [13], .err 0, .data [10, 13, 10, 7]]⟩ : BufR).Ok ∧
    (skipTrailers bufSrc ⟨[65, 58], 3, [.data [13], .err 0, .data [10, 13, 10, 7]]⟩).1 = .ok true := by
  decide +kernel

/-- (c) … and for what ends any chunk (`read_line_ending`, or `skip_trailers` after the last one). -/
theorem C05_chunkEnd_no_panic_buf (last : Bool) (r : BufR) (h : r.Ok) :
    (chunkEnd bufSrc last r).1 ≠ .panic ∧ (chunkEnd bufSrc last r).2.Ok := by
  obtain ⟨h1, _, h3⟩ := chunkEnd_sim bufSim last r h
  exact ⟨by rw [h1]; exact chunkEnd_flat_ne_panic _ _, h3⟩

example : (⟨[13], 3, [.data [10, 7]]⟩ : BufR).Ok ∧
    (chunkEnd bufSrc false ⟨[13], 3, [.data [10, 7]]⟩).1 = .ok true := by decide +kernel

/-! ### (d) bounded consumption on any stream -/

theorem skipTrailersLoop_consumes_le (k : Nat) : ∀ r : List Item,
    ∃ pre, r = pre ++ (skipTrailersLoop flatSrc k r).2 ∧
      (bytesOf pre).length ≤ k * Consts.trailerLineLimit := by
  induction k with
  | zero => intro r; exact ⟨[], rfl, Nat.zero_le _⟩
  | succ k ih =>
    intro r
    obtain ⟨pre, e1, e2', _⟩ := readLine_flat_char r Consts.trailerLineLimit
    have e2 := Nat.le_trans (bytesOf_length_le_noIntr pre) e2'
    have hmul : (k + 1) * Consts.trailerLineLimit = k * Consts.trailerLineLimit + Consts.trailerLineLimit :=
      Nat.succ_mul _ _
    unfold skipTrailersLoop
    rcases hrl : readLine flatSrc r Consts.trailerLineLimit with ⟨res, r'⟩
    rw [hrl] at e1
    simp only at e1
    cases res with
    | ok line =>
      simp only
      split
      · exact ⟨pre, e1, by omega⟩
      · obtain ⟨pre2, f1, f2⟩ := ih r'
        refine ⟨pre ++ pre2, by rw [List.append_assoc, ← f1]; exact e1, ?_⟩
        rw [bytesOf_append, List.length_append]; omega
    | err e => exact ⟨pre, e1, by omega⟩
    | blocked => exact ⟨pre, e1, by omega⟩
    | panic => exact ⟨pre, e1, by omega⟩

/-- (d) On ANY stream, whatever `skip_trailers` returns (`Ok(true)`, `Ok(false)`, an error, a stall),
    the piece `pre` of the stream it consumed holds at most
    `(MAX_TRAILER_LINES + 1) * TRAILER_LINE_LIMIT` bytes (besides them only Interrupted errors, which
    std retries, and at most one hard error). -/
theorem C05_trailers_consumption_bounded (r : List Item) :
    ∃ pre, r = pre ++ (skipTrailers flatSrc r).2 ∧
      (bytesOf pre).length ≤ (Consts.maxTrailerLines + 1) * Consts.trailerLineLimit :=
  skipTrailersLoop_consumes_le _ r

example := C05_trailers_consumption_bounded C05t.exRest

/-! ### the limits themselves -/

/-- Absolute obligations on the two constants extracted from the Rust source (compare
    `C05_consts`): they break if someone removes or inflates a limit. -/
theorem C05_trailer_consts :
    2 ≤ Consts.trailerLineLimit ∧ Consts.trailerLineLimit ≤ 65536 ∧ Consts.maxTrailerLines ≤ 1024 := by
  decide

end Atto
