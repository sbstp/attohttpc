/-
  Atto/Props/C13h.lean — property C13, the TLS handshake as a phase (fix F20): a peer that stays
  silent inside the handshake for the read timeout ends the call with an error, after ONE read
  timeout — whatever the TLS library reports otherwise.  Model: Atto/Model/Handshake.lean; the shape
  of the code (loop or not) is regenerated from /repo/src/tls/*.rs on every run.
-/
import Atto.Model.Handshake
namespace Atto
open Handshake

/-- the code does not keep driving the handshake in a loop (regenerated constant) -/
theorem C13_handshake_no_retry : Consts.tlsHandshakeRetries = false := by decide

/-- the code as it stands makes one attempt -/
theorem Handshake.handshake_succ (lib : Nat → Step) (n : Nat) :
    handshake lib (n + 1) = match lib 0 with
      | .done => (.ok, 0)
      | .failure => (.err, 0)
      | .silent => (.timedOut, 1) := by
  unfold handshake run
  rw [C13_handshake_no_retry]
  cases lib 0 <;> rfl

/-- For every behaviour of the TLS library and of the peer, the handshake call is over after its first
    attempt: it never spins, and it waits for at most one read timeout. -/
theorem C13_handshake_ends (lib : Nat → Step) (fuel : Nat) (hf : 0 < fuel) :
    (handshake lib fuel).1 ≠ .spinning ∧ (handshake lib fuel).2 ≤ 1 := by
  cases fuel with
  | zero => exact absurd hf (Nat.lt_irrefl 0)
  | succ n => rw [handshake_succ]; cases lib 0 <;> simp

/-- a silence of one read timeout is reported as an error (a timeout), not waited out -/
theorem C13_handshake_silence_is_error (lib : Nat → Step) (fuel : Nat) (hf : 0 < fuel)
    (h : lib 0 = .silent) : handshake lib fuel = (.timedOut, 1) := by
  cases fuel with
  | zero => exact absurd hf (Nat.lt_irrefl 0)
  | succ n => rw [handshake_succ, h]

/-- and nothing else is turned into a timeout: a handshake the library completes or fails at once is
    reported as such, with no waiting -/
theorem C13_handshake_only_silence_times_out (lib : Nat → Step) (fuel : Nat) :
    (handshake lib fuel).1 = .timedOut → lib 0 = .silent := by
  cases fuel with
  | zero => intro h; cases h
  | succ n => rw [handshake_succ]; cases lib 0 <;> simp

/-- What F20 repaired, on the model: the retrying shape (both back ends before the fix) waits one read
    timeout after the other against a peer that stays silent, for as long as it is given. -/
theorem C13_handshake_retry_unbounded (n k : Nat) :
    run true (fun _ => .silent) n k = (.spinning, k + n) := by
  induction n generalizing k with
  | zero => simp [run]
  | succ n ih => unfold run; simp [ih]; omega

/-- non-vacuity: a silent peer, a peer that completes, a peer that fails -/
example : handshake (fun _ => .silent) 5 = (.timedOut, 1) ∧ handshake (fun _ => .done) 5 = (.ok, 0) ∧
    handshake (fun k => if k = 0 then .failure else .silent) 5 = (.err, 0) := by decide

end Atto
