/-
  Atto/Props/C10w.lean — property C10, "each request sent while following redirects is itself a
  complete well-formed request", on the error path: a hop whose connection breaks while the request
  is written is the LAST hop — whatever could have been read on that connection (a redirect, say) is
  not acted upon — and every hop before it carries exactly the request of the fault-free exchange.
  Model: Atto/Model/SendW.lean (tied to the code by op `sendf`, harness family write_fault_chains).
-/
import Atto.Model.SendW
import Atto.Lemmas.RedirectExamples
namespace Atto

/-- `sendW` when the fault shows -/
theorem sendW_fault (s : SendSettings) (req : Req) (cap : Nat) (url : Url) (hops : List Hop)
    (f : WriteFault) (o : HopOut)
    (hreach : (send s req cap url hops).1[f.hop]? = some o) (hcut : f.takes < o.wrote.length) :
    sendW s req cap url hops f =
      ((send s req cap url hops).1.take f.hop ++ [{ o with wrote := o.wrote.take f.takes }], .err f.err) := by
  unfold sendW
  dsimp only
  rw [hreach]
  dsimp only
  rw [if_pos hcut]

/-- a fault that never shows (the connection is not reached, or everything fits) changes nothing -/
theorem C10_write_fault_unreached (s : SendSettings) (req : Req) (cap : Nat) (url : Url)
    (hops : List Hop) (f : WriteFault)
    (h : ∀ o, (send s req cap url hops).1[f.hop]? = some o → o.wrote.length ≤ f.takes) :
    sendW s req cap url hops f = send s req cap url hops := by
  unfold sendW
  dsimp only
  cases hr : (send s req cap url hops).1[f.hop]? with
  | none => rfl
  | some o =>
    have := h o hr
    dsimp only
    rw [if_neg (by omega)]

/-- The faulted hop is the last one, the call ends with the write error, the hops before it are those
    of the fault-free exchange and the faulted connection carries a strict prefix of its request. -/
theorem C10_write_fault_ends (s : SendSettings) (req : Req) (cap : Nat) (url : Url) (hops : List Hop)
    (f : WriteFault) (o : HopOut)
    (hreach : (send s req cap url hops).1[f.hop]? = some o) (hcut : f.takes < o.wrote.length) :
    (sendW s req cap url hops f).2 = .err f.err ∧
    (sendW s req cap url hops f).1.length = f.hop + 1 ∧
    (sendW s req cap url hops f).1.take f.hop = (send s req cap url hops).1.take f.hop ∧
    (∃ last, (sendW s req cap url hops f).1[f.hop]? = some last ∧
      last.wrote = o.wrote.take f.takes ∧ last.wrote.length = f.takes ∧
      last.wrote.length < o.wrote.length) := by
  have hlen : f.hop ≤ (send s req cap url hops).1.length :=
    Nat.le_of_lt (List.getElem?_eq_some_iff.mp hreach).1
  have htake : ((send s req cap url hops).1.take f.hop).length = f.hop := by
    rw [List.length_take]; omega
  rw [sendW_fault s req cap url hops f o hreach hcut]
  refine ⟨rfl, by simp [htake], by simp [htake], { o with wrote := o.wrote.take f.takes }, ?_, rfl, ?_, ?_⟩
  · simp [htake]
  · simp; omega
  · simp; omega

/-- Read the other way round — the clause of the property: in an exchange with a write fault every hop
    that is followed by another hop carries the complete request of the fault-free exchange. -/
theorem C10_followed_hops_are_complete (s : SendSettings) (req : Req) (cap : Nat) (url : Url)
    (hops : List Hop) (f : WriteFault) (i : Nat)
    (hi : i + 1 < (sendW s req cap url hops f).1.length) :
    (sendW s req cap url hops f).1[i]? = (send s req cap url hops).1[i]? := by
  cases hr : (send s req cap url hops).1[f.hop]? with
  | none => rw [C10_write_fault_unreached s req cap url hops f (by intro o ho; rw [hr] at ho; cases ho)]
  | some o =>
    by_cases hc : f.takes < o.wrote.length
    · -- the observations are those before the faulted hop, then the faulted one: `i` is before it
      obtain ⟨_, hl, ht, _⟩ := C10_write_fault_ends s req cap url hops f o hr hc
      have hif : i < f.hop := by omega
      rw [← List.getElem?_take_of_lt hif, ← List.getElem?_take_of_lt (l := (send s req cap url hops).1) hif, ht]
    · rw [C10_write_fault_unreached s req cap url hops f (by intro o' ho; rw [hr] at ho; cases ho; omega)]

open RdEx in
/-- non-vacuity: the chain a → b → c → 200 of the C09 examples (three requests of 77 bytes); the second
    connection takes 10 bytes and breaks with a broken pipe (kind 5): two connections, the second one
    carries 10 bytes, the call ends with that error -/
example : (sendW (rx_settings true 5) rx_req 64 rx_a rx_chain ⟨1, 10, .io 5⟩).1.map (fun o => o.wrote.length) = [77, 10] ∧
    (match (sendW (rx_settings true 5) rx_req 64 rx_a rx_chain ⟨1, 10, .io 5⟩).2 with
      | .err (.io k) => some k | _ => none) = some 5 ∧
    (send (rx_settings true 5) rx_req 64 rx_a rx_chain).1.map (fun o => o.wrote.length) = [77, 77, 77] := by
  simp only [rx_chain, rx_redirect, rx_ok, rx_req, rx_body, str_data]
  decide +kernel

end Atto
