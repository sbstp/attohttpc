/-
  Atto/Props/BufView.lean — the `BufRead` view of the body reader (`fill_buf` / `consume`, mixed with
  `read` in any order): what the content decoders of C06 read from. The statements of C01 (payload
  exactly), C02 (a cut body never ends cleanly), C19 (what has arrived can be read) and C05 (no
  panic) are proved again for EVERY sequence of `read(n)` / `fill_buf()` / `consume(k)` calls, so the
  gzip / deflate layer sits on the same byte stream the plain reader delivers (C06 layering), however
  flate2 chooses to drive the two interfaces. For `Content-Length` bodies the consumer has to keep the
  `BufRead` contract (`lawfulT`: `consume(k)` only for bytes that are buffered; `io::Take::consume` charges
  the whole `k` against the announced length otherwise — see Model/BodyBuf.lean); the chunked and the
  close-delimited reader clamp `consume` themselves, so (b1) and (b3) hold for ANY call sequence.
-/
import Atto.Model.BodyBuf
import Atto.Lemmas.BufViewLemmas
import Atto.Lemmas.ExampleFacts
namespace Atto

local notation "L" => Consts.maxLineLen
local notation "CL" => Consts.chunkSizeLineLimit

/-- (b1) chunked framing, any consumer: no error / stall / panic; what the consumer has taken is a
    prefix of the payload; every slice `fill_buf` shows continues the payload where the consumer
    stands; `fill_buf` shows an empty slice, and a `read` into a non-empty buffer returns `Ok(0)`,
    exactly when the whole payload has been taken. `trail` is whatever follows the frame. -/
theorem BV_chunked (h : HeadS) (cs : List ChunkS) (last : LastS) (trail : List Item)
    (t : Transport) (cap maxBuf mh : Nat) (m : Method) (ops : List BOp)
    (hwf : wfT t) (hcap : 0 < cap) (hmb : 0 < maxBuf) (hh : h.WF L)
    (hcs : ∀ c ∈ cs, c.WF CL) (hl : last.WF CL)
    (hmh : h.fields.length ≤ mh) (hms : h.fields.length ≤ Headers.maxSize)
    (hnb : bodyless m h.code = false) (hch : isChunked h.seen = true)
    (hflat : flatT t = bytesI (h.render ++ encChunks cs ++ last.enc) ++ trail) :
    ∃ resp, parseResponse m mh cap t = .ok resp ∧
      let evs := (bufRun maxBuf ops resp.body).1
      (∀ e ∈ evs, e.isFault = false) ∧ takenEv evs <+: payloadOf cs ∧
      (∀ i bs, evs[i]? = some (.peek bs) → takenEv (evs.take i) ++ bs <+: payloadOf cs) ∧
      (∀ i, ops[i]? = some .fill →
          (evs[i]? = some (.peek []) ↔ takenEv (evs.take i) = payloadOf cs)) ∧
      (∀ i n, ops[i]? = some (.read n) → 0 < n →
          (evs[i]? = some (.got []) ↔ takenEv (evs.take i) = payloadOf cs)) := by
  obtain ⟨r1, hok, hfl, hp⟩ := parseResponse_framed h hh _ trail t cap mh hwf hcap hmh hms
    (by rw [hflat, List.append_assoc]) (chooseFraming_chunked hnb hch)
  refine ⟨_, hp, ?_⟩
  exact (chunked_clean_buf_step last hl trail maxBuf hmb).clean ops
    (chClean_fresh cs hcs last trail r1 hok hfl) (runA_of_forall (fun _ _ => trivial) _ ops _)

/-- non-vacuity: the example response of C01 (two chunks, trailer section, garbage and silence behind
    the frame), driven by a consumer that peeks twice, consumes less / more than it saw, and reads -/
example := BV_chunked Ex.headTE Ex.chunks Ex.lastT Ex.afterFrame
  Ex.chunkedTrailersT 8 4 100 .get
  Ex.viewOps
  (Ex.wfT_seg_append _ _ (Ex.long (Ex.long Ex.headTE_long)) (by decide)) (by decide) (by decide)
  Ex.headTE_wf Ex.chunks_wf Ex.lastT_wf (by decide) (by decide) rfl Ex.headTE_chunked
  (Ex.flatT_seg_append _ _)

/-- (b2) `Content-Length` framing, any consumer: as (b1) for the `Content-Length` octets `body`;
    nothing of `trail` (the bytes, stall or error behind the frame) is ever shown or taken, and the
    end of the body is reported without touching the connection. -/
theorem BV_length (h : HeadS) (body : Bytes) (trail : List Item)
    (t : Transport) (cap maxBuf mh : Nat) (m : Method) (ops : List BOp)
    (hwf : wfT t) (hcap : 0 < cap) (hh : h.WF L)
    (hmh : h.fields.length ≤ mh) (hms : h.fields.length ≤ Headers.maxSize)
    (hnb : bodyless m h.code = false) (hch : isChunked h.seen = false)
    (hcl : isContentLength h.seen = .ok (some body.length))
    (hflat : flatT t = bytesI (h.render ++ body) ++ trail)
    (hlaw : lawfulT m mh cap maxBuf ops t = true) :
    ∃ resp, parseResponse m mh cap t = .ok resp ∧
      let evs := (bufRun maxBuf ops resp.body).1
      (∀ e ∈ evs, e.isFault = false) ∧ takenEv evs <+: body ∧
      (∀ i bs, evs[i]? = some (.peek bs) → takenEv (evs.take i) ++ bs <+: body) ∧
      (∀ i, ops[i]? = some .fill →
          (evs[i]? = some (.peek []) ↔ takenEv (evs.take i) = body)) ∧
      (∀ i n, ops[i]? = some (.read n) → 0 < n →
          (evs[i]? = some (.got []) ↔ takenEv (evs.take i) = body)) := by
  obtain ⟨r1, hok, hfl, hp'⟩ := parseResponse_framed h hh body trail t cap mh hwf hcap hmh hms hflat
    (chooseFraming_length hnb hch hcl)
  refine ⟨_, hp', ?_⟩
  exact (clean_buf_step maxBuf _ _ (.inl rfl)).clean ops (Exact.complete_length hok hfl)
    (runA_of_lawful maxBuf ops _ (lawful_of_lawfulT hp' hlaw))

/-- non-vacuity: `Content-Length: 11`, `hello world`, then a stray byte and silence -/
example := BV_length Ex.headCL Ex.body Ex.afterFrame
  Ex.lengthT 8 4 100 .get
  Ex.viewOps
  (Ex.wfT_seg_append _ _ (Ex.long Ex.headCL_long) (by decide)) (by decide) Ex.headCL_wf (by decide)
  (by decide) rfl Ex.headCL_chunked Ex.headCL_cl_body (Ex.flatT_seg_append _ _) (by decide +kernel)

/-- (b3) close-delimited framing, any consumer: as (b1) for everything up to the end of the stream. -/
theorem BV_close (h : HeadS) (body : Bytes)
    (t : Transport) (cap maxBuf mh : Nat) (m : Method) (ops : List BOp)
    (hwf : wfT t) (hcap : 0 < cap) (hh : h.WF L)
    (hmh : h.fields.length ≤ mh) (hms : h.fields.length ≤ Headers.maxSize)
    (hnb : bodyless m h.code = false) (hch : isChunked h.seen = false)
    (hcl : isContentLength h.seen = .ok none)
    (hflat : flatT t = bytesI (h.render ++ body)) :
    ∃ resp, parseResponse m mh cap t = .ok resp ∧
      let evs := (bufRun maxBuf ops resp.body).1
      (∀ e ∈ evs, e.isFault = false) ∧ takenEv evs <+: body ∧
      (∀ i bs, evs[i]? = some (.peek bs) → takenEv (evs.take i) ++ bs <+: body) ∧
      (∀ i, ops[i]? = some .fill →
          (evs[i]? = some (.peek []) ↔ takenEv (evs.take i) = body)) ∧
      (∀ i n, ops[i]? = some (.read n) → 0 < n →
          (evs[i]? = some (.got []) ↔ takenEv (evs.take i) = body)) := by
  obtain ⟨r1, hok, hfl, hp⟩ := parseResponse_framed_end h hh body t cap mh hwf hcap hmh hms hflat
    (chooseFraming_close hnb hch hcl)
  refine ⟨_, hp, ?_⟩
  exact (clean_buf_step maxBuf _ _ (.inr ⟨rfl, rfl⟩)).clean ops (Exact.complete_close hok hfl)
    (runA_close maxBuf ops r1)

/-- non-vacuity: an HTTP/1.0 404 without framing headers, body up to the end of the stream -/
example := BV_close Ex.headClose Ex.body
  Ex.closeT 8 4 100 .get
  Ex.viewOps
  (Ex.wfT_seg _ Ex.headClose_body_long) (by decide) Ex.headClose_wf (by decide) (by decide) rfl
  Ex.headClose_chunked Ex.headClose_cl (Ex.flatT_seg _)

/-- (b4) a `Content-Length: n` body of which only `pre` (fewer than `n` bytes) arrives before the
    connection is closed, any consumer: never a clean end — no empty `fill_buf` slice, no `Ok(0)` into
    a non-empty buffer —, what is taken is a prefix of `pre`, nothing panics, and once all of `pre` has
    been taken every `fill_buf` (and every `read` into a non-empty buffer) reports `UnexpectedEof`. -/
theorem BV_length_cut (h : HeadS) (pre : Bytes) (n : Nat)
    (t : Transport) (cap maxBuf mh : Nat) (m : Method) (ops : List BOp)
    (hwf : wfT t) (hcap : 0 < cap) (hh : h.WF L)
    (hmh : h.fields.length ≤ mh) (hms : h.fields.length ≤ Headers.maxSize)
    (hnb : bodyless m h.code = false) (hch : isChunked h.seen = false)
    (hcl : isContentLength h.seen = .ok (some n)) (hpre : pre.length < n)
    (hflat : flatT t = bytesI (h.render ++ pre))
    (hlaw : lawfulT m mh cap maxBuf ops t = true) :
    ∃ resp, parseResponse m mh cap t = .ok resp ∧
      let evs := (bufRun maxBuf ops resp.body).1
      (∀ e ∈ evs, e ≠ .peek [] ∧ e ≠ .panic) ∧
      (∀ (i : Nat) n', ops[i]? = some (.read n') → 0 < n' → evs[i]? ≠ some (.got [])) ∧
      takenEv evs <+: pre ∧
      (∀ i, ops[i]? = some .fill → takenEv (evs.take i) = pre → evs[i]? = some (.err .eof)) ∧
      (∀ i n', ops[i]? = some (.read n') → 0 < n' → takenEv (evs.take i) = pre →
          evs[i]? = some (.err .eof)) := by
  obtain ⟨r1, hok, hfl, hp'⟩ := parseResponse_framed_end h hh pre t cap mh hwf hcap hmh hms hflat
    (chooseFraming_length hnb hch hcl)
  refine ⟨_, hp', ?_⟩
  exact cut_buf_run maxBuf ops (Exact.cut hok hpre hfl) (Nat.sub_pos_of_lt hpre)
    (runA_of_lawful maxBuf ops _ (lawful_of_lawfulT hp' hlaw))

/-- non-vacuity: `Content-Length: 11` but only `hello` arrives before the connection closes -/
example := BV_length_cut Ex.headCL (str "hello") 11
  Ex.lengthShortT 8 4 100 .get
  [.fill, .consume 1, .read 2, .fill, .consume 1, .fill, .read 4, .fill, .read 4]
  (Ex.wfT_seg _ (Ex.long Ex.headCL_long)) (by decide) Ex.headCL_wf (by decide) (by decide) rfl
  Ex.headCL_chunked Ex.headCL_cl Ex.hello_short (Ex.flatT_seg _) (by decide +kernel)

/-- (b5) delivered as it arrives, `BufRead` view: of a `Content-Length` (`o = some n`, `x` within the
    announced length) or close-delimited (`o = none`) body, `x` has arrived, followed by ANYTHING
    (`rest`, typically silence). While the consumer has taken fewer than `x.length` bytes, `fill_buf`
    shows a non-empty slice and a `read` into a non-empty buffer returns a non-empty piece: neither
    waits for the peer. -/
theorem BV_arrived (h : HeadS) (x : Bytes) (o : Option Nat) (rest : List Item)
    (t : Transport) (cap maxBuf mh : Nat) (m : Method) (ops : List BOp)
    (hwf : wfT t) (hcap : 0 < cap) (hh : h.WF L)
    (hmh : h.fields.length ≤ mh) (hms : h.fields.length ≤ Headers.maxSize)
    (hnb : bodyless m h.code = false) (hch : isChunked h.seen = false)
    (hcl : isContentLength h.seen = .ok o) (hx : ∀ n, o = some n → x.length ≤ n)
    (hflat : flatT t = bytesI (h.render ++ x) ++ rest)
    (hlaw : lawfulT m mh cap maxBuf ops t = true) :
    ∃ resp, parseResponse m mh cap t = .ok resp ∧
      let evs := (bufRun maxBuf ops resp.body).1
      ∀ i, (takenEv (evs.take i)).length < x.length →
        (ops[i]? = some .fill → ∃ bs, evs[i]? = some (.peek bs) ∧ bs ≠ []) ∧
        (∀ n, ops[i]? = some (.read n) → 0 < n → ∃ bs, evs[i]? = some (.got bs) ∧ bs ≠ [] ∧ bs.length ≤ n) := by
  cases o with
  | none =>
    obtain ⟨r1, hok, hfl, hp'⟩ := parseResponse_framed h hh x rest t cap mh hwf hcap hmh hms hflat
      (chooseFraming_close hnb hch hcl)
    refine ⟨_, hp', ?_⟩
    obtain ⟨y, rest', he⟩ := Exact.of_arrived_close hok hfl
    exact arrived_buf_run maxBuf ops he (runA_of_lawful maxBuf ops _ (lawful_of_lawfulT hp' hlaw))
  | some n =>
    obtain ⟨r1, hok, hfl, hp'⟩ := parseResponse_framed h hh x rest t cap mh hwf hcap hmh hms hflat
      (chooseFraming_length hnb hch hcl)
    refine ⟨_, hp', ?_⟩
    obtain ⟨y, k, rest', he⟩ := Exact.of_arrived_length hok (hx n rfl) hfl
    exact arrived_buf_run maxBuf ops he (runA_of_lawful maxBuf ops _ (lawful_of_lawfulT hp' hlaw))

/-- non-vacuity: `Content-Length: 11`, `hello` has arrived, then the peer is silent -/
example := BV_arrived Ex.headCL (str "hello") (some 11) [.pause]
  (Ex.seg (Ex.headCL.render ++ str "hello") ++ [.pause]) 8 4 100 .get
  [.fill, .consume 1, .read 2, .fill, .consume 1, .fill, .read 4, .fill, .read 4]
  (Ex.wfT_seg_append _ _ (Ex.long Ex.headCL_long) (by decide)) (by decide) Ex.headCL_wf (by decide)
  (by decide) rfl Ex.headCL_chunked Ex.headCL_cl Ex.hello_within (Ex.flatT_seg_append _ _)
  (by decide +kernel)

/-- (b6) no call sequence on any body `parse_response` returns panics — over ANY stream: `Take`'s
    `assert!(n <= limit)`, `&buffer[consumed..]`, the `usize` subtractions of the chunked reader and
    of `Take::consume` all stay in range whatever `consume` is given. -/
theorem BV_no_panic (m : Method) (t : Transport) (cap mh maxBuf : Nat) (ops : List BOp)
    (resp : Resp) (hw : wfT t) (hc : 0 < cap) (hr : parseResponse m mh cap t = .ok resp) :
    ∀ e ∈ (bufRun maxBuf ops resp.body).1, e ≠ BEv.panic := by
  obtain ⟨f, r1, hb, hok, _⟩ := (parseResponse_ok m t cap mh hw hc).2 resp hr
  rw [hb]
  exact (bufRun_no_panic maxBuf ops _ (Body.new_ok f r1 hok)).1

/-- a `BufReader::read` with bytes in the buffer takes the first of them -/
theorem BufR.read_of_buf {r : BufR} (hb : r.buf ≠ []) (n : Nat) :
    r.read n = (.ok (r.buf.take n), r.consume n) := by
  simp only [BufR.read, hb, false_and, if_false, BufR.fillBuf, ne_eq, not_false_eq_true, if_true]

/-- (b7) `read(n)` is `fill_buf` + copy + `consume` for the chunked reader (by definition of the
    code), and for the other two framings it takes the same bytes whenever the internal buffer is not
    bypassed — stated as: a `read` never takes anything but the first bytes of what `fill_buf` would
    have shown, or (buffer empty, large `n`) the next bytes of the connection. -/
theorem BV_read_is_prefix_of_window (b : Body) (maxBuf n : Nat) (bs : Bytes)
    (hw : b.window ≠ []) (hr : (b.read maxBuf n).1 = .ok bs) :
    bs = b.window.take n := by
  cases b with
  | chunked c =>
    simp only [Body.window, ne_eq, List.drop_eq_nil_iff, Nat.not_le] at hw
    rw [chunked_read_eq] at hr
    simp only at hr
    cases hf : c.failed with
    | true =>
      rw [Chunked.read, fillBuf_failed _ _ _ hf] at hr
      cases hr
    | false =>
      have hfb : c.fillBuf bufSrc maxBuf = (.ok (c.buffer.drop c.consumed), c) :=
        fillBuf_noRefill _ _ _ hf (by omega) (by omega)
      rw [read_of_fillBuf _ _ _ _ n _ hfb] at hr
      simp only [RR.ok.injEq] at hr
      rw [← hr]; rfl
  | close r =>
    rw [close_read_eq, BufR.read_of_buf hw] at hr
    exact (RR.ok.inj hr).symm
  | length r lim =>
    simp only [Body.window] at hw ⊢
    have hb : r.buf ≠ [] := by intro hc; simp [hc] at hw
    have hl : lim ≠ 0 := by intro hc; simp [hc] at hw
    rw [length_read_eq r lim maxBuf n (by omega), BufR.read_of_buf hb, eofRes] at hr
    split at hr
    · cases hr
    · rw [← RR.ok.inj hr, List.take_take]

example : (Body.length ⟨[1, 2, 3], 8, []⟩ 2).window = [1, 2] := rfl

end Atto
