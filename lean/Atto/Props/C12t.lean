/-
  Atto/Props/C12t.lean — what is written INSIDE a CONNECT tunnel, and following redirects through
  tunnels (properties C12, C08, C10, C09 continued behind the proxy's `2xx`).

  `sendLoopT` / `sendT` (Model/SendT.lean) are `sendLoop` / `send` with the TLS layer of tunnels
  left out: after the proxy's `2xx` the request is written in clear on the same connection
  (`HopOutT.inner`), the origin's answer is read from what follows the proxy's head, and the
  redirect loop goes on.  The chain of URLs is `urlsVisitedT` (`tn_urls`): the caller's URL, then
  what each followed hop's `Location` resolved to; `hdrsVisitedT` (`rd_hdrsSeq`) is the header map
  each hop starts from: the prepared headers, to which only `set_host` is ever applied.
    (1) `tunnelHead` is `initiateTunnel` that keeps the reader;
    (2) `sendLoopT` refines `sendLoop`;
    (3) inside the tunnel goes the origin-form request for THAT hop's URL with that hop's own `Host`;
        the TLS name is the origin's;
    (4) the proxy URL's credentials never enter a tunnel — header statement and non-interference;
    (5) nothing is written after a CONNECT that was not answered `2xx`;
    (6) tunnelled hops replay method and body by the same rule as plain hops;
    (7) the redirect limit holds through tunnels.
  Helper lemmas: Lemmas/SendTLemmas.lean (and Lemmas/Redirect.lean).
-/
import Atto.Lemmas.SendTLemmas
import Atto.Lemmas.RedirectExamples
import Atto.Props.C12
namespace Atto
open Atto.Rd Atto.RdEx

deriving instance DecidableEq for HopOutT
deriving instance DecidableEq for BufR

/-! ### example data -/
namespace C12t
def proxyUrl : Url :=
  { scheme := str "http", user := str "pu", pass := some (str "pp"), host := str "proxy.test", hostKind := 0,
    port := some 3128, effPort := 3128, path := str "/", query := none, fragment := none }
/-- the same proxy with other credentials -/
def proxyUrl2 : Url := { proxyUrl with user := str "other", pass := none }
/-- `https://c.test/three` -/
def c3 : Url :=
  { scheme := str "https", user := [], pass := none, host := str "c.test", hostKind := 0, port := none,
    effPort := 443, path := str "/three", query := none, fragment := none }
/-- `http://a.test/one` -/
def a1 : Url := rx_url "a.test" "/one"
def viaProxy : SendSettings :=
  { followRedirects := true, maxRedirections := 5, maxHeaders := 100,
    proxy := { httpProxy := some proxyUrl, httpsProxy := some proxyUrl, disabled := false, noProxy := [] } }
def proxy2 : ProxySettings :=
  { httpProxy := some proxyUrl2, httpsProxy := some proxyUrl2, disabled := false, noProxy := [] }
/-- the caller set a `Proxy-Authorization` of its own -/
def reqPA : Req :=
  { rx_req with headers := rx_req.headers ++ [(str "proxy-authorization", str "Basic Y2FsbGVy")] }
/-- hop 0: the proxy agrees (the first bytes of the origin's answer arrive in the same segment as the
    proxy's head), the origin answers 307 → `http://a.test/one`; hop 1: 200. -/
def hopTunnel : Hop :=
  { script := [.data (str "HTTP/1.1 200 Connection established\r\n\r\nHTTP/1.1 307 T"),
               .data (str "emporary Redirect\r\nLocation: http://a.test/one\r\n"),
               .data (str "Content-Length: 0\r\n\r\n")],
    resolved := some a1 }
def chain : List Hop := [hopTunnel, { script := rx_ok, resolved := none }]
/-- `http://a.test/one` → 307 → `https://c.test/three` (tunnel) → 307 → `http://a.test/one` → 200 -/
def chain3 : List Hop :=
  { script := rx_redirect "307 Temporary Redirect" "https://c.test/three", resolved := some c3 } :: chain
/-- hop 0: the proxy refuses (407) -/
def hopRefused : Hop := { script := C12.refuse.script, resolved := some a1 }
def refused : List Hop := [hopRefused, { script := rx_ok, resolved := none }]

theorem same : viaProxy.proxy.sameUpToCreds proxy2 := by
  unfold ProxySettings.sameUpToCreds; exact ⟨rfl, rfl, rfl, rfl⟩
/-- The two-hop chain, evaluated once. `sendT`: hop 0 is the tunnel towards `c.test` with the request
    inside it, hop 1 goes to the proxy in the clear; `send` stops where TLS begins. The definitions
    that hold the long literals are unfolded first, so that `str_data` reaches them. -/
theorem run_chain :
    sendT viaProxy rx_req 64 c3 chain =
      ([{ out := { dialScheme := str "http", dialHost := str "proxy.test", dialPort := 3128,
                   wrote := str "CONNECT c.test:443 HTTP/1.1\r\nHost: proxy.test:3128\r\nConnection: close\r\nProxy-Authorization: Basic cHU6cHA=\r\n\r\n",
                   tlsName := some (str "c.test") },
           inner := some (str "POST /three HTTP/1.1\r\naccept: */*\r\nx-caller: 1\r\ncontent-length: 3\r\nhost: c.test\r\n\r\nabc") },
         { out := { dialScheme := str "http", dialHost := str "proxy.test", dialPort := 3128,
                    wrote := str "POST http://a.test/one HTTP/1.1\r\naccept: */*\r\nx-caller: 1\r\ncontent-length: 3\r\nhost: proxy.test:3128\r\n\r\nabc",
                    tlsName := none } }],
       .ok 200 a1) ∧
    send viaProxy rx_req 64 c3 chain =
      ([{ dialScheme := str "http", dialHost := str "proxy.test", dialPort := 3128,
          wrote := str "CONNECT c.test:443 HTTP/1.1\r\nHost: proxy.test:3128\r\nConnection: close\r\nProxy-Authorization: Basic cHU6cHA=\r\n\r\n",
          tlsName := some (str "c.test") }], .tlsStarted) ∧
    urlsVisitedT viaProxy rx_req 64 c3 chain = [c3, a1] := by
  repeat rw [str_ofList]
  simp only [chain, hopTunnel, rx_ok, rx_req, rx_body, str_data]
  decide +kernel
theorem urls : urlsVisitedT viaProxy rx_req 64 c3 chain = [c3, a1] := run_chain.2.2
/-- The three-hop chain with the one-shot body: the request inside the tunnel of hop 1 announces three
    bytes and carries none. -/
theorem run_chain3 :
    (sendT viaProxy rx_reqOneShot 64 a1 chain3).1.map (·.inner) =
      [none,
       some (str "POST /three HTTP/1.1\r\naccept: */*\r\nx-caller: 1\r\ncontent-length: 3\r\nhost: c.test\r\n\r\n"),
       none] ∧
    urlsVisitedT viaProxy rx_reqOneShot 64 a1 chain3 = [a1, c3, a1] := by
  rw [str_ofList]
  simp only [chain3, chain, hopTunnel, rx_redirect, rx_ok, str_data]
  decide +kernel
theorem urls3 : urlsVisitedT viaProxy rx_reqOneShot 64 a1 chain3 = [a1, c3, a1] := run_chain3.2
end C12t
open C12t

/-! ### (1) `tunnelHead` -/

/-- `initiate_tunnel` answers what `tunnelHead` answers: the refusal / error if there is one, and
    `tlsStarted` exactly when `tunnelHead` hands the reader over (the proxy said `2xx`). -/
theorem C12t_tunnelHead_initiateTunnel (mh cap : Nat) (t : Transport) :
    initiateTunnel mh cap t = match tunnelHead mh cap t with | .inl f => f | .inr _ => .tlsStarted :=
  tn_tunnelHead_initiateTunnel mh cap t

/-- non-vacuity: agreed — the bytes that followed the proxy's head in the same segment are what the
    next reader sees first; refused — 407 with its body. -/
example : (match tunnelHead 100 64 hopTunnel.script with
    | .inl _ => none | .inr r => some (tunnelRest r)) =
    some [.data (str "HTTP/1.1 307 T"), .data (str "emporary Redirect\r\nLocation: http://a.test/one\r\n"),
          .data (str "Content-Length: 0\r\n\r\n")] := by
  simp only [hopTunnel, str_data]
  decide +kernel
example : initiateTunnel 100 64 hopTunnel.script = .tlsStarted := by
  rw [C12t_tunnelHead_initiateTunnel]; decide +kernel
example : (match tunnelHead 100 8 C12.refuse.script with | .inl f => some f | .inr _ => none) =
    some (.connectError 407 (str "no way")) := by decide +kernel

/-! ### (2) `sendLoopT` refines `sendLoop` -/

/-- The loop with transparent tunnels refines the loop that stops where TLS begins.
    If `sendLoop` does not end with `tlsStarted` — no CONNECT was agreed — both observe the same
    connections (every field of every `HopOut`, `tlsName` included) and end in the same way.
    In general the observations of `sendLoop`, up to and including the first agreed tunnel, are
    literally the first observations of `sendLoopT`. -/
theorem C12t_agrees_with_send_top (s : SendSettings) (req : Req) (cap : Nat) (url : Url) (hops : List Hop) :
    ((send s req cap url hops).2 ≠ .tlsStarted →
      (sendT s req cap url hops).1.map (·.out) = (send s req cap url hops).1 ∧
      (sendT s req cap url hops).2 = (send s req cap url hops).2) ∧
    (send s req cap url hops).1 <+: (sendT s req cap url hops).1.map (·.out) := by
  -- `sendLoopT` with the observations projected is the loop of `sendLoop`, except that its step goes
  -- on where `sendLoop`'s stops with `tlsStarted`
  unfold send sendT
  have h := sendLoopT_map s req cap hops url 0 req.headers true (·.out)
  simp only [← rd_obs_eq_out] at h
  obtain ⟨h1, h2⟩ := hopLoop_refines (upd := rd_hopHdrs s) (obs := rd_obs s req cap) (rd_step_refines s req cap)
    hops url 0 req.headers true
  rw [sendLoop_eq, (Prod.mk.inj h).1]
  refine ⟨fun hne => ?_, h1⟩
  rw [(Prod.mk.inj h).2, h2 hne]
  exact ⟨rfl, rfl⟩

/-- `sendLoop` ends with `tlsStarted` exactly when its last observation is an agreed tunnel (a TLS
    name is set): the hypothesis of the first part excludes nothing else. -/
theorem C12t_send_stops_at_agreed_tunnel (s : SendSettings) (req : Req) (cap : Nat) (hops : List Hop)
    (url : Url) (n : Nat) (hdrs : Headers) (first : Bool) :
    (sendLoop s req cap hops url n hdrs first).2 = .tlsStarted ↔
    ∃ o, (sendLoop s req cap hops url n hdrs first).1.getLast? = some o ∧ o.tlsName.isSome := by
  cases hops with
  | nil => simp [sendLoop]
  | cons hop0 rest =>
    obtain ⟨hop, u, hin, fl, m, _, _, hl, hs⟩ := sendLoop_last s req cap (hop0 :: rest) url n hdrs first (by simp)
    rw [hl]
    simp only [Option.some.injEq, exists_eq_left', rd_obs_tls_iff s req cap m]
    rcases hs with hs | ⟨⟨next, hs⟩, hf⟩
    · rw [hs]; simp
    · rw [hs, hf]; simp

/-- non-vacuity, first part: the proxy refuses — same observation, same `connectError`; and a plain
    chain a → b → c through a proxy that excludes `b`. -/
example : (sendT viaProxy rx_req 64 c3 refused).1.map (·.out) = (send viaProxy rx_req 64 c3 refused).1 ∧
    (sendT viaProxy rx_req 64 c3 refused).2 = .connectError 407 (str "no way") := by
  have h := (C12t_agrees_with_send_top viaProxy rx_req 64 c3 refused).1 (by decide +kernel)
  refine ⟨h.1, ?_⟩
  rw [h.2]; decide +kernel
example := (C12t_agrees_with_send_top rx_settingsProxy rx_req 64 rx_a rx_chain).1 (by rw [rx_run_chainProxy.1]; decide)
/-- non-vacuity, second part: `send` stops after the CONNECT (one observation, `tlsStarted`),
    `sendT` goes on to `http://a.test/one` (two observations, 200). -/
example : (send viaProxy rx_req 64 c3 chain).2 = .tlsStarted ∧ (send viaProxy rx_req 64 c3 chain).1.length = 1 ∧
    (sendT viaProxy rx_req 64 c3 chain).1.length = 2 ∧ (sendT viaProxy rx_req 64 c3 chain).2 = .ok 200 a1 := by
  rw [C12t.run_chain.1, C12t.run_chain.2.1]
  exact ⟨rfl, rfl, rfl, rfl⟩
example := (C12t_agrees_with_send_top viaProxy rx_req 64 c3 chain).2
example := (C12t_send_stops_at_agreed_tunnel viaProxy rx_req 64 chain c3 0 rx_req.headers true).mp
  (congrArg Prod.snd C12t.run_chain.2.1)

/-! ### the chain of URLs -/

/-- The chain: hop 0 goes to the caller's URL, hop `i+1` to what hop `i`'s `Location` resolved to
    (and hop `i` was followed: a followed status below the limit) — tunnel hops included. -/
theorem C12t_chain (s : SendSettings) (req : Req) (cap : Nat) (url : Url) (hops : List Hop) :
    (hops ≠ [] → (urlsVisitedT s req cap url hops)[0]? = some url) ∧
    (∀ i u', (urlsVisitedT s req cap url hops)[i + 1]? = some u' →
      ∃ hop u, hops[i]? = some hop ∧ (urlsVisitedT s req cap url hops)[i]? = some u ∧
        hop.resolved = some u' ∧ i + 1 ≤ s.maxRedirections) ∧
    (sendT s req cap url hops).1.length = (urlsVisitedT s req cap url hops).length := by
  unfold sendT urlsVisitedT
  rw [sendLoopT_eq, tn_urls_eq]
  refine ⟨?_, ?_, hopLoop_length hops url 0 req.headers true⟩
  · intro hne
    cases hops with
    | nil => exact absurd rfl hne
    | cons hop rest => exact hopUrls_head hop rest url 0
  · intro i u' h
    obtain ⟨hop, u, h1, h2, h3⟩ := hopUrls_next hops url 0 i u' h
    obtain ⟨_, hn, hr⟩ := tn_step_follow_inv h3
    exact ⟨hop, u, h1, h2, hr, by omega⟩

example : urlsVisitedT viaProxy rx_req 64 c3 chain = [c3, a1] := C12t.urls
/-- hop 1's URL is what hop 0 (the tunnel hop) resolved its `Location` to -/
example := (C12t_chain viaProxy rx_req 64 c3 chain).2.1 0 a1 (congrArg (·[1]?) C12t.urls)

/-! ### (3) the request inside the tunnel -/

/-- Every observation of the loop that has a request inside a tunnel (`inner = some w`), by
    position `i`: `u` is the `i`-th URL of the chain, `hin` the header map left by the hops before;
    a proxy `p` is selected for `u` and `u` is `https`; the proxy connection (dialled: `p`) carries
    `connectRequest u p` and nothing else before TLS; the TLS name is `u`'s host — the origin's,
    never the proxy's; and `w` is the origin-form request for `u` with the header map
    `setHost hin u`, whose only `Host` value is `u`'s authority. -/
theorem C12t_inner_is_origin_request (s : SendSettings) (req : Req) (cap : Nat) (hops : List Hop)
    (url : Url) (n : Nat) (hdrs : Headers) (first : Bool) (i : Nat) (o : HopOutT) (w : Bytes) :
    (sendLoopT s req cap hops url n hdrs first).1[i]? = some o → o.inner = some w →
    ∃ u hin p, (tn_urls s req cap hops url n)[i]? = some u ∧
      (rd_hdrsSeq s hdrs (tn_urls s req cap hops url n))[i]? = some hin ∧
      s.proxy.forUrl u = some p ∧ u.scheme = str "https" ∧
      w = writeRequest req.method u false (setHost hin u) (rd_body req (first && i == 0)) ∧
      (setHost hin u).getAll (hName "host") = [u.authority] ∧
      o.out.wrote = connectRequest u p ∧ o.out.tlsName = some u.host ∧
      o.out.dialHost = p.host ∧ o.out.dialPort = p.effPort ∧ o.out.dialScheme = p.scheme := by
  intro ho hw
  obtain ⟨u, hin, hop, h1, h2, _, h4⟩ := tn_outs ho
  subst h4
  obtain ⟨ht, _, hw', hout⟩ := tn_obs_inner hw
  obtain ⟨p, hp, hs⟩ := (tn_tunnels_iff s u).mp ht
  refine ⟨u, hin, p, h1, h2, hp, hs, hw', C08_host hin u, ?_⟩
  rw [hout]
  simp only [tn_agreedOut, tn_connectOut, tn_target_of_forUrl hp, and_self]

/-- The same for every element of the output, without positions: there are a URL `u` of the chain,
    headers `h`, a body `b` and the proxy `p` chosen for `u` with … -/
theorem C12t_inner_is_origin_request_mem (s : SendSettings) (req : Req) (cap : Nat) (hops : List Hop)
    (url : Url) (n : Nat) (hdrs : Headers) (first : Bool) (o : HopOutT) (w : Bytes) :
    o ∈ (sendLoopT s req cap hops url n hdrs first).1 → o.inner = some w →
    ∃ u h b p, u ∈ tn_urls s req cap hops url n ∧
      w = writeRequest req.method u false (setHost h u) b ∧
      s.proxy.forUrl u = some p ∧ (s.proxy.forUrl u).isSome ∧ u.scheme = str "https" ∧
      o.out.wrote = connectRequest u p ∧ o.out.tlsName = some u.host := by
  intro hm hw
  obtain ⟨i, hi⟩ := List.getElem?_of_mem hm
  obtain ⟨u, hin, p, h1, _, hp, hs, hw', _, hc, ht, _⟩ :=
    C12t_inner_is_origin_request s req cap hops url n hdrs first i o w hi hw
  exact ⟨u, hin, _, p, List.mem_of_getElem? h1, hw', hp, by simp [hp], hs, hc, ht⟩

/-- (C08 inside the tunnel) the request target of the inner request is the origin-form of the hop's
    URL: `method SP path[?query] SP HTTP/1.1 CRLF …` — no scheme, no authority, no userinfo. -/
theorem C08t_inner_origin_form (s : SendSettings) (req : Req) (cap : Nat) (hops : List Hop)
    (url : Url) (n : Nat) (hdrs : Headers) (first : Bool) (i : Nat) (o : HopOutT) (w : Bytes) :
    (sendLoopT s req cap hops url n hdrs first).1[i]? = some o → o.inner = some w →
    ∃ u after, (tn_urls s req cap hops url n)[i]? = some u ∧
      w = req.method ++ [32] ++ u.originForm ++ str " HTTP/1.1\r\n" ++ after := by
  intro ho hw
  obtain ⟨u, hin, p, h1, _, _, _, hw', _⟩ :=
    C12t_inner_is_origin_request s req cap hops url n hdrs first i o w ho hw
  refine ⟨u, writeHeaders (setHost hin u) ++ writeBody (rd_body req (first && i == 0)), h1, ?_⟩
  rw [hw']
  simp [writeRequest, requestTarget, List.append_assoc]

/-- non-vacuity: the two-hop chain; hop 0 is the tunnel towards `c.test` -/
example : (sendT viaProxy rx_req 64 c3 chain).1.map (fun o => (o.inner, o.out.wrote, o.out.tlsName)) =
    [(some (str "POST /three HTTP/1.1\r\naccept: */*\r\nx-caller: 1\r\ncontent-length: 3\r\nhost: c.test\r\n\r\nabc"),
      str "CONNECT c.test:443 HTTP/1.1\r\nHost: proxy.test:3128\r\nConnection: close\r\nProxy-Authorization: Basic cHU6cHA=\r\n\r\n",
      some (str "c.test")),
     (none,
      str "POST http://a.test/one HTTP/1.1\r\naccept: */*\r\nx-caller: 1\r\ncontent-length: 3\r\nhost: proxy.test:3128\r\n\r\nabc",
      none)] := by
  rw [C12t.run_chain.1]; rfl
example (o : HopOutT) (w : Bytes) (ho : (sendT viaProxy rx_req 64 c3 chain).1[0]? = some o)
    (hw : o.inner = some w) :
    ∃ hin, w = writeRequest (str "POST") c3 false (setHost hin c3) rx_body ∧
      o.out.wrote = connectRequest c3 proxyUrl ∧ o.out.tlsName = some (str "c.test") := by
  obtain ⟨u, hin, p, h1, _, hp, _, hw', _, hc, ht, _⟩ :=
    C12t_inner_is_origin_request viaProxy rx_req 64 chain c3 0 rx_req.headers true 0 o w ho hw
  have e : (tn_urls viaProxy rx_req 64 chain c3 0)[0]? = some c3 := congrArg (·[0]?) C12t.urls
  rw [e] at h1; cases h1
  have e2 : viaProxy.proxy.forUrl c3 = some proxyUrl := by decide +kernel
  rw [e2] at hp; cases hp
  exact ⟨hin, hw', hc, ht⟩
example (o : HopOutT) (w : Bytes) (hm : o ∈ (sendT viaProxy rx_req 64 c3 chain).1) (hw : o.inner = some w) :=
  C12t_inner_is_origin_request_mem viaProxy rx_req 64 chain c3 0 rx_req.headers true o w hm hw
example (o : HopOutT) (w : Bytes) (ho : (sendT viaProxy rx_req 64 c3 chain).1[0]? = some o)
    (hw : o.inner = some w) : ∃ after, w = str "POST" ++ [32] ++ str "/three" ++ str " HTTP/1.1\r\n" ++ after := by
  obtain ⟨u, after, h1, h2⟩ := C08t_inner_origin_form viaProxy rx_req 64 chain c3 0 rx_req.headers true 0 o w ho hw
  have e : (tn_urls viaProxy rx_req 64 chain c3 0)[0]? = some c3 := congrArg (·[0]?) C12t.urls
  rw [e] at h1; cases h1
  exact ⟨after, h2⟩
/-- the hypotheses can be met: hop 0 of the chain has an inner request -/
example : ((sendT viaProxy rx_req 64 c3 chain).1[0]?.bind (·.inner)).isSome = true := by
  rw [C12t.run_chain.1]; rfl

/-! ### (4) the proxy's credentials stay outside -/

/-- The header map of every inner request is `setHost hin u` where every field other than `Host` —
    `Proxy-Authorization` in particular — has exactly the values the loop was started with:
    `hdrs` only ever changes by `set_host`.  The proxy URL's credentials (which are in
    `connectRequest`) are never copied into the request that goes through the tunnel. -/
theorem C12t_no_proxy_creds_inside_top (s : SendSettings) (req : Req) (cap : Nat) (url : Url)
    (hops : List Hop) (i : Nat) (o : HopOutT) (w : Bytes) :
    (sendT s req cap url hops).1[i]? = some o → o.inner = some w →
    ∃ u hin, (urlsVisitedT s req cap url hops)[i]? = some u ∧
      (hdrsVisitedT s req cap url hops)[i]? = some hin ∧
      w = writeRequest req.method u false (setHost hin u) (rd_body req (i == 0)) ∧
      (setHost hin u).getAll (str "proxy-authorization") = req.headers.getAll (str "proxy-authorization") ∧
      (∀ m, m ≠ hName "host" → (setHost hin u).getAll m = req.headers.getAll m) := by
  intro ho hw
  obtain ⟨u, hin, p, h1, h2, _, _, hw', _⟩ :=
    C12t_inner_is_origin_request s req cap hops url 0 req.headers true i o w ho hw
  have hk : ∀ m, m ≠ hName "host" → (setHost hin u).getAll m = req.headers.getAll m := by
    intro m hm
    rw [rd_hdrsSeq_setHost s _ _ i hin h2, rq_getAll_setHost, if_neg hm]
  exact ⟨u, hin, h1, h2, by simpa using hw', hk _ (by simp [hName, str_inj]), hk⟩

/-- non-vacuity: a caller without `Proxy-Authorization` — none inside (the proxy URL has `pu:pp`);
    a caller with its own — exactly that one. -/
example (o : HopOutT) (w : Bytes) (ho : (sendT viaProxy rx_req 64 c3 chain).1[0]? = some o)
    (hw : o.inner = some w) :
    ∃ hin, w = writeRequest (str "POST") c3 false (setHost hin c3) rx_body ∧
      (setHost hin c3).getAll (str "proxy-authorization") = [] := by
  obtain ⟨u, hin, h1, _, h3, h4, _⟩ := C12t_no_proxy_creds_inside_top viaProxy rx_req 64 c3 chain 0 o w ho hw
  rw [C12t.urls] at h1; cases h1
  refine ⟨hin, h3, ?_⟩
  rw [h4]; decide +kernel
example : (sendT viaProxy reqPA 64 c3 chain).1.map (·.inner) =
    [some (str "POST /three HTTP/1.1\r\naccept: */*\r\nx-caller: 1\r\ncontent-length: 3\r\nproxy-authorization: Basic Y2FsbGVy\r\nhost: c.test\r\n\r\nabc"),
     none] := by
  rw [str_ofList]
  simp only [reqPA, chain, hopTunnel, rx_ok, rx_req, rx_body, str_data]
  decide +kernel

/-- Non-interference: two runs of `sendT` whose settings differ only in the `user` / `pass` fields
    of the proxy URLs (`ProxySettings.sameUpToCreds`) end in the same way and observe, connection by
    connection, the same inner request, the same peer, the same TLS name; what is written before TLS
    is the same too, except on tunnel hops, where both write the CONNECT head for the same URL — the
    only place the credentials appear. -/
theorem C12t_creds_noninterference (s : SendSettings) (ps : ProxySettings) (h : s.proxy.sameUpToCreds ps)
    (req : Req) (cap : Nat) (url : Url) (hops : List Hop) :
    (sendT { s with proxy := ps } req cap url hops).2 = (sendT s req cap url hops).2 ∧
    (sendT { s with proxy := ps } req cap url hops).1.map (·.inner) = (sendT s req cap url hops).1.map (·.inner) ∧
    (sendT { s with proxy := ps } req cap url hops).1.map
        (fun o => (o.out.dialScheme, o.out.dialHost, o.out.dialPort, o.out.tlsName, o.out.tlsNameIsDomain)) =
      (sendT s req cap url hops).1.map
        (fun o => (o.out.dialScheme, o.out.dialHost, o.out.dialPort, o.out.tlsName, o.out.tlsNameIsDomain)) ∧
    (∀ (i : Nat) (o o' : HopOutT), (sendT s req cap url hops).1[i]? = some o →
      (sendT { s with proxy := ps } req cap url hops).1[i]? = some o' →
      o'.out.wrote = o.out.wrote ∨
      ∃ u p p', s.proxy.forUrl u = some p ∧ ps.forUrl u = some p' ∧ p.sameUpToCreds p' ∧
        o.out.wrote = connectRequest u p ∧ o'.out.wrote = connectRequest u p') := by
  obtain ⟨h1, h2⟩ := tn_nonint h req cap hops url 0 req.headers true
  refine ⟨h1, ?_, ?_, ?_⟩
  · have := congrArg (List.map Prod.fst) h2
    simp only [List.map_map] at this
    exact this
  · have := congrArg (List.map Prod.snd) h2
    simp only [List.map_map] at this
    exact this
  · intro i o o' ho ho'
    -- both runs go through the same URLs, header maps and connections
    obtain ⟨u, hin, hop, a1, a2, a3, rfl⟩ := tn_outs ho
    obtain ⟨u', hin', hop', b1, b2, b3, rfl⟩ := tn_outs ho'
    rw [tn_urls_eq, tn_ni_step h, ← tn_urls_eq] at b1 b2
    rw [rd_hdrsSeq_eq, tn_ni_hopHdrs h, ← rd_hdrsSeq_eq, a2] at b2
    rw [a1] at b1; rw [a3] at b3
    cases b1; cases b2; cases b3
    exact (tn_ni_obs h req cap hop u hin _).2.imp id fun ⟨p, p', x⟩ => ⟨u, p, p', x⟩

/-- non-vacuity: proxy credentials `pu:pp` versus `other` (no password): same inner requests, same
    result; the CONNECT heads differ. -/
example := C12t_creds_noninterference viaProxy proxy2 C12t.same rx_req 64 c3 chain
example : (sendT { viaProxy with proxy := proxy2 } rx_req 64 c3 chain).1.map (·.out.wrote) ≠
    (sendT viaProxy rx_req 64 c3 chain).1.map (·.out.wrote) := by
  simp only [chain, hopTunnel, rx_ok, rx_req, rx_body, str_data]
  decide +kernel
example : (sendT { viaProxy with proxy := proxy2 } rx_req 64 c3 chain).1.map (·.inner) =
    (sendT viaProxy rx_req 64 c3 chain).1.map (·.inner) :=
  (C12t_creds_noninterference viaProxy proxy2 C12t.same rx_req 64 c3 chain).2.1

/-! ### (5) refusal -/

/-- If hop `i` is reached at URL `u`, the CONNECT branch is taken there and the proxy's answer is
    not an agreement (`tunnelHead` gives `inl f`: a non-2xx status, a broken head, a transport
    error, silence), then hop `i` is the last observation, it has no inner request and no TLS name,
    only the CONNECT head was written on it, and the outcome of the whole loop is `f`. -/
theorem C12t_refusal_stops (s : SendSettings) (req : Req) (cap : Nat) (hops : List Hop) (url : Url)
    (n : Nat) (hdrs : Headers) (first : Bool) (i : Nat) (u : Url) (hop : Hop) (f : Final) :
    (tn_urls s req cap hops url n)[i]? = some u → hops[i]? = some hop → rd_tunnels s u = true →
    tunnelHead s.maxHeaders cap hop.script = .inl f →
    (sendLoopT s req cap hops url n hdrs first).2 = f ∧
    (sendLoopT s req cap hops url n hdrs first).1.length = i + 1 ∧
    ∃ o, (sendLoopT s req cap hops url n hdrs first).1[i]? = some o ∧
      (sendLoopT s req cap hops url n hdrs first).1.getLast? = some o ∧
      o.inner = none ∧ o.out.tlsName = none ∧ o.out.wrote = connectRequest u (rd_target s u) := by
  intro hu hh ht hf
  obtain ⟨h1, h2⟩ : (sendLoopT s req cap hops url n hdrs first).2 = f ∧
      (sendLoopT s req cap hops url n hdrs first).1.length = i + 1 := by
    rw [sendLoopT_eq, hopLoop_length]
    exact hopLoop_final_at hops url n hdrs first i u hop f (tn_urls_eq .. ▸ hu) hh (tn_step_refused ht hf)
  refine ⟨h1, h2, ?_⟩
  have hlt : i < (sendLoopT s req cap hops url n hdrs first).1.length := by omega
  have hget : (sendLoopT s req cap hops url n hdrs first).1[i]? =
      some ((sendLoopT s req cap hops url n hdrs first).1[i]) := List.getElem?_eq_getElem hlt
  obtain ⟨u', hin, hop', a1, _, a3, a4⟩ := tn_outs hget
  rw [hu] at a1; cases a1
  rw [hh] at a3; cases a3
  rw [tn_obs_refused ht hf] at a4
  refine ⟨_, hget, ?_, ?_⟩
  · rw [List.getLast?_eq_getElem?, h2]; exact hget
  · rw [a4]; exact ⟨rfl, rfl, rfl⟩

/-- the first hop: a refused CONNECT is the only observation, whatever connections remain -/
theorem C12t_refusal_first (s : SendSettings) (req : Req) (cap : Nat) (hop : Hop) (rest : List Hop)
    (url : Url) (n : Nat) (hdrs : Headers) (first : Bool) (f : Final)
    (ht : rd_tunnels s url = true) (hf : tunnelHead s.maxHeaders cap hop.script = .inl f) :
    sendLoopT s req cap (hop :: rest) url n hdrs first = ([{ out := tn_connectOut s url }], f) := by
  rw [sendLoopT_eq, hopLoop_final (tn_step_refused ht hf), tn_obs_refused ht hf]

/-- non-vacuity: a → (307) → c, where the proxy answers the CONNECT with 407: two observations, the
    second without inner request, result `connectError 407`. -/
example : (sendT viaProxy rx_req 8 a1
      ({ script := rx_redirect "307 Temporary Redirect" "https://c.test/three", resolved := some c3 } :: refused)).2 =
    .connectError 407 (str "no way") :=
  (C12t_refusal_stops viaProxy rx_req 8 _ a1 0 rx_req.headers true 1 c3 hopRefused _
    (by simp only [rx_redirect, rx_req, rx_body, str_data]; decide +kernel) rfl (by decide +kernel)
    (by decide +kernel)).1
example : sendT viaProxy rx_req 8 c3 refused = ([{ out := tn_connectOut viaProxy c3 }], .connectError 407 (str "no way")) :=
  C12t_refusal_first viaProxy rx_req 8 _ _ c3 0 rx_req.headers true _ (by decide +kernel) (by decide +kernel)

/-! ### (6) method and body inside the tunnel -/

/-- The inner request of hop `i` is written with the caller's method and ends with the body bytes
    given by the same rule as for plain hops: the whole body on hop 0 or when the body can be
    rewound, nothing (`writes := []`, under the unchanged framing header) for a one-shot body on a
    later hop. -/
theorem C10t_body_inside (s : SendSettings) (req : Req) (cap : Nat) (url : Url) (hops : List Hop)
    (i : Nat) (o : HopOutT) (w : Bytes) :
    (sendT s req cap url hops).1[i]? = some o → o.inner = some w →
    let body : BodyM := if i = 0 ∨ req.bodyRewindable = true then req.body else { req.body with writes := [] }
    ∃ u hin, (urlsVisitedT s req cap url hops)[i]? = some u ∧
      (hdrsVisitedT s req cap url hops)[i]? = some hin ∧
      w = writeRequest req.method u false (setHost hin u) body ∧
      ∃ head, w = req.method ++ [32] ++ head ++ writeBody body := by
  intro ho hw body
  obtain ⟨u, hin, h1, h2, h3, _, _⟩ := C12t_no_proxy_creds_inside_top s req cap url hops i o w ho hw
  have hb : rd_body req (i == 0) = body := by
    simp only [rd_body, body]
    by_cases hi : i = 0 <;> cases req.bodyRewindable <;> simp [hi]
  rw [hb] at h3
  refine ⟨u, hin, h1, h2, h3, requestTarget u false ++ str " HTTP/1.1\r\n" ++ writeHeaders (setHost hin u), ?_⟩
  rw [h3]; simp [writeRequest, List.append_assoc]

/-- non-vacuity: a rewindable body is replayed inside a tunnel reached on hop 1 … -/
example (o : HopOutT) (w : Bytes) (ho : (sendT viaProxy rx_req 64 a1 chain3).1[1]? = some o)
    (hw : o.inner = some w) : ∃ head, w = str "POST" ++ [32] ++ head ++ str "abc" := by
  obtain ⟨_, _, _, _, _, head, hh⟩ := C10t_body_inside viaProxy rx_req 64 a1 chain3 1 o w ho hw
  have e : writeBody (if 1 = 0 ∨ rx_req.bodyRewindable = true then rx_req.body else { rx_req.body with writes := [] })
      = str "abc" := by decide +kernel
  rw [e] at hh
  exact ⟨head, hh⟩
/-- … and a one-shot body is not (`C10_full_refuted_oneshot`, also inside tunnels): the head
    announces `content-length: 3`, no body byte follows. -/
example : (sendT viaProxy rx_reqOneShot 64 a1 chain3).1.map (·.inner) =
    [none,
     some (str "POST /three HTTP/1.1\r\naccept: */*\r\nx-caller: 1\r\ncontent-length: 3\r\nhost: c.test\r\n\r\n"),
     none] := C12t.run_chain3.1
example : ((sendT viaProxy rx_req 64 a1 chain3).1[1]?.bind (·.inner)).isSome = true := by
  simp only [chain3, chain, hopTunnel, rx_redirect, rx_ok, rx_req, rx_body, str_data]
  decide +kernel

/-! ### (7) the redirect limit -/

/-- `sendT` makes at most `max_redirections + 1` connections (a tunnel counts as one: the CONNECT
    and the request inside it share the connection). -/
theorem C09t_bound (s : SendSettings) (req : Req) (cap : Nat) (url : Url) (hops : List Hop) :
    (sendT s req cap url hops).1.length ≤ s.maxRedirections + 1 := by
  unfold sendT
  rw [sendLoopT_eq, hopLoop_length]
  exact (hopUrls_length_le (fun _ _ _ _ h => (tn_step_follow_inv h).2.1) hops url 0).2

/-- non-vacuity: limit 1 on the three-hop chain through a tunnel: two connections, then
    `TooManyRedirections` (raised on the answer read inside the tunnel). -/
example : (sendT { viaProxy with maxRedirections := 1 } rx_req 64 a1 chain3).1.length ≤ 1 + 1 :=
  C09t_bound _ _ _ _ _
example : (sendT { viaProxy with maxRedirections := 1 } rx_req 64 a1 chain3).1.length = 2 ∧
    (sendT { viaProxy with maxRedirections := 1 } rx_req 64 a1 chain3).2 = .tooManyRedirections := by
  simp only [chain3, chain, hopTunnel, rx_redirect, rx_ok, rx_req, rx_body, str_data]
  decide +kernel

end Atto
