/-
  Atto/Props/C16.lean — "settings flow from session to request by value, never back or sideways".

  src/request/settings.rs keeps `BaseSettings` behind an `Arc`; `Session::clone` and
  `session.get(url)` only bump the reference count, every setter goes through `Arc::make_mut`
  (copy iff shared), and `RequestBuilder::try_with_settings` copies the session's headers once.
  `Heap` (Model/Settings.lean) mirrors that; `Val` is the specification in which every session and
  every builder OWNS a plain value.

  (a) `C16_refine`: for every operation sequence the code's observations are the specification's.
      Proof: simulation relation `st_R` (Lemmas/SettingsRefine.lean) with the reference-count
      invariant "rc p = number of live handles pointing to p".
  (b) isolation, stated on the specification and transferred to every reachable code state:
      `C16_request_isolated`, `C16_clone_isolated`, `C16_snapshot_at_creation` (+ the general frame
      theorems `C16_session_frame`, `C16_builder_frame`, `C16_session_determined`,
      `C16_builder_determined`).
  (c) `C16_header_semantics`: replace / append on the header maps.
  (d) `C16_defaults`: Accept / User-Agent / Accept-Encoding put in by `try_prepare`.
-/
import Atto.Gen.Consts
import Atto.Lemmas.RqHeaders
import Atto.Lemmas.SettingsRefine
namespace Atto

/-! ### (a) refinement -/

/-- (a) For EVERY operation sequence, the `Arc`/`make_mut` machine shows exactly what the by-value
    specification shows. -/
theorem C16_refine (ops : List SOp) : Heap.run {} ops = Val.run {} ops :=
  st_run st_R_init ops

/-- (a) generalised over related start states -/
theorem C16_refine_from {h : Heap} {w : Val} (r : st_R h w) (ops : List SOp) :
    Heap.run h ops = Val.run w ops := st_run r ops

/-- (a) after any common history: every later observation agrees -/
theorem C16_refine_reach (hist : List SOp) (op : SOp) :
    ((Heap.exec {} hist).step op).2 = ((Val.exec {} hist).step op).2 := (st_reach hist).obs op

/-- what the relation says about a reachable code state: same live ids, and the reference count of
    every cell is the number of live handles that point to it (≥ 1 for the cell of a live handle) -/
theorem C16_refcount (hist : List SOp) (p : Nat) (c : Cell)
    (hc : (Heap.exec {} hist).cells[p]? = some c) :
    c.rc = st_cnt (Heap.exec {} hist).sessions p + st_cnt (st_ptrs (Heap.exec {} hist).builders) p :=
  (st_reach hist).rc p c hc

/-- no dangling handles, no premature release: in every reachable code state the cell of a live
    session / builder exists and its count is at least 1 -/
theorem C16_live_cells (hist : List SOp) :
    (∀ i p, getAt (Heap.exec {} hist).sessions i = some p →
      ∃ c, (Heap.exec {} hist).cells[p]? = some c ∧ 1 ≤ c.rc) ∧
    (∀ i b, getAt (Heap.exec {} hist).builders i = some b →
      ∃ c, (Heap.exec {} hist).cells[b.ptr]? = some c ∧ 1 ≤ c.rc) := by
  have r := st_reach hist
  refine ⟨fun i p hp => ?_, fun i b hb => ?_⟩
  · have hc := List.getElem?_eq_getElem (r.sessLive i p hp).1
    exact ⟨_, hc, r.RC.pos hp hc⟩
  · have hc := List.getElem?_eq_getElem (r.bldLive i b hb).1
    exact ⟨_, hc, r.RC.symm.pos (st_ptrs_at hb) hc⟩

/-- the same ids are live in the code and in the specification -/
theorem C16_same_live (hist : List SOp) (i : Nat) :
    (getAt (Heap.exec {} hist).sessions i).isSome = (getAt (Val.exec {} hist).sessions i).isSome ∧
    (getAt (Heap.exec {} hist).builders i).isSome = (getAt (Val.exec {} hist).builders i).isSome :=
  ⟨(st_reach hist).sessT.isSome_eq i, (st_reach hist).bldT.isSome_eq i⟩

/-- a history: new session 0, header on it, clone (session 1), builder 0 from session 0, a setter on the
    builder, a setter on session 0, a header on the clone, a header on the builder, observe all three -/
def C16.exOps : List SOp :=
  [.newSession, .sessHeader 0 [120] [49], .cloneSession 0, .create (some 0),
   .bldSet 0 .maxRedirections 9, .sessSet 0 .maxRedirections 2, .sessHeader 1 [120] [50],
   .bldHeader 0 [121] [51], .obsSession 0, .obsSession 1, .obsBuilder 0]

/-- non-vacuity: both machines, evaluated. Session 0 sees only its own setter, the clone only its own
    header, the builder the snapshot (`x: 1`, 5 → 9 redirections) plus its own header. -/
example :
    Heap.run {} C16.exOps =
      [none, none, none, none, none, none, none, none,
       some { sc := { maxRedirections := 2 }, sessHeaders := [([120], [49])], reqHeaders := [] },
       some { sc := {}, sessHeaders := [([120], [50])], reqHeaders := [] },
       some { sc := { maxRedirections := 9 }, sessHeaders := [([120], [49])],
              reqHeaders := [([120], [49]), ([121], [51])] }] ∧
    Val.run {} C16.exOps = Heap.run {} C16.exOps := by decide +kernel

/-- non-vacuity: the code machine really shares — after `clone` and `get` there is ONE cell with
    count 3; the first setter through a shared handle copies it (two cells, counts 2 and 1). -/
example :
    ((Heap.exec {} [.newSession, .cloneSession 0, .create (some 0)]).cells.map Cell.rc = [3]) ∧
    ((Heap.exec {} [.newSession, .cloneSession 0, .create (some 0), .sessSet 1 .proxy 7]).cells.map Cell.rc
      = [2, 1]) ∧
    ((Heap.exec {} [.newSession, .sessSet 0 .proxy 7]).cells.map Cell.rc = [1]) := by decide +kernel

/-! ### (b) never back or sideways

  `SOp.sessTarget` / `SOp.bldTarget` (Lemmas/SettingsRefine.lean) name the one existing session /
  builder an operation writes to (`sessSet/sessHeader/sessAppend/dropSession s` ↦ session `s`,
  `bldSet/bldHeader/bldAppend/dropBuilder b` ↦ builder `b`, everything else — creation, cloning,
  observation — writes to no existing object). `SOp.actS op s` / `SOp.actB op b` are the effect of
  the operation on the value owned by `s` / `b`. -/

/-- General form ("determined"): the value of an allocated session id after any history is the fold
    of the operations' own actions on it — nothing else in the world matters. -/
theorem C16_session_determined (w : Val) (ops : List SOp) (s : Nat) (hs : s < w.sessions.length) :
    ((w.exec ops).step (.obsSession s)).2
      = (ops.foldl (fun x op => op.actS s x) (getAt w.sessions s)).map st_viewS := by
  rw [st_val_obsS, st_val_sess_exec w ops hs]

theorem C16_builder_determined (w : Val) (ops : List SOp) (b : Nat) (hb : b < w.builders.length) :
    ((w.exec ops).step (.obsBuilder b)).2
      = (ops.foldl (fun x op => op.actB b x) (getAt w.builders b)).map st_viewB := by
  rw [st_val_obsB, st_val_bld_exec w ops hb]

/-- Frame: operations that are not addressed to session `s` do not change what `s` shows. -/
theorem C16_session_frame (w : Val) (ops : List SOp) (s : Nat) (hs : s < w.sessions.length)
    (h : ∀ op ∈ ops, op.sessTarget ≠ some s) :
    ((w.exec ops).step (.obsSession s)).2 = (w.step (.obsSession s)).2 := by
  rw [C16_session_determined w ops s hs, st_foldl_actS_untargeted ops s h, st_val_obsS]

/-- Frame: operations that are not addressed to builder `b` do not change what `b` shows. -/
theorem C16_builder_frame (w : Val) (ops : List SOp) (b : Nat) (hb : b < w.builders.length)
    (h : ∀ op ∈ ops, op.bldTarget ≠ some b) :
    ((w.exec ops).step (.obsBuilder b)).2 = (w.step (.obsBuilder b)).2 := by
  rw [C16_builder_determined w ops b hb, st_foldl_actB_untargeted ops b h, st_val_obsB]

/-- The frame theorems need the id to be allocated already: the next `newSession` takes the first
    unallocated id. -/
def C16_session_frame_full : Prop :=
  ∀ (w : Val) (ops : List SOp) (s : Nat), (∀ op ∈ ops, op.sessTarget ≠ some s) →
    ((w.exec ops).step (.obsSession s)).2 = (w.step (.obsSession s)).2

/-- counterexample to the unrestricted frame statement: id 0 in the empty world -/
theorem C16_session_frame_full_false : ¬ C16_session_frame_full := by
  intro h
  have := h {} [.newSession] 0 (by decide)
  revert this
  decide +kernel

def C16_builder_frame_full : Prop :=
  ∀ (w : Val) (ops : List SOp) (b : Nat), (∀ op ∈ ops, op.bldTarget ≠ some b) →
    ((w.exec ops).step (.obsBuilder b)).2 = (w.step (.obsBuilder b)).2

/-- counterexample: builder id 0 in the empty world is taken by the next `create` -/
theorem C16_builder_frame_full_false : ¬ C16_builder_frame_full := by
  intro h
  have := h {} [.create none] 0 (by decide)
  revert this
  decide +kernel

/-- an operation on builder `b` leaves the session table and every other builder slot as they are -/
private theorem C16.bldop (w : Val) (op : SOp) (b : Nat) (hop : op.bldTarget = some b) :
    (w.step op).1.sessions = w.sessions ∧
    ∀ b', b' ≠ b → getAt (w.step op).1.builders b' = getAt w.builders b' := by
  cases op with
  | bldSet b' _ _ | bldHeader b' _ _ | bldAppend b' _ _ =>
    cases hop
    simp only [Val.step]
    split <;> exact ⟨rfl, fun b' hne => by simp [st_getAt_setAt_ne _ _ hne]⟩
  | dropBuilder b' => cases hop; exact ⟨rfl, fun b' hne => st_getAt_setAt_ne _ _ hne⟩
  | _ => cases hop

/-- (b) Request isolation: an operation on builder `b` (`bldSet`, `bldHeader`, `bldAppend`,
    `dropBuilder`) changes no session observation and no other builder's observation — for every
    id, allocated or not. -/
theorem C16_request_isolated (w : Val) (op : SOp) (b : Nat) (hop : op.bldTarget = some b) :
    (∀ s, ((w.step op).1.step (.obsSession s)).2 = (w.step (.obsSession s)).2) ∧
    (∀ b', b' ≠ b → ((w.step op).1.step (.obsBuilder b')).2 = (w.step (.obsBuilder b')).2) := by
  constructor
  · intro s; rw [st_val_obsS, st_val_obsS, (C16.bldop w op b hop).1]
  · intro b' hne; rw [st_val_obsB, st_val_obsB, (C16.bldop w op b hop).2 b' hne]

/-- (b) the same for any sequence of operations on builder `b` -/
theorem C16_request_isolated_seq (w : Val) (ops : List SOp) (b : Nat)
    (hops : ∀ op ∈ ops, op.bldTarget = some b) :
    (∀ s, ((w.exec ops).step (.obsSession s)).2 = (w.step (.obsSession s)).2) ∧
    (∀ b', b' ≠ b → ((w.exec ops).step (.obsBuilder b')).2 = (w.step (.obsBuilder b')).2) := by
  induction ops generalizing w with
  | nil => exact ⟨fun _ => rfl, fun _ _ => rfl⟩
  | cons op ops ih =>
    have h1 := C16_request_isolated w op b (hops op (by simp))
    have h2 := ih (w.step op).1 (fun o ho => hops o (by simp [ho]))
    rw [st_val_exec_cons]
    exact ⟨fun s => (h2.1 s).trans (h1.1 s), fun b' hne => (h2.2 b' hne).trans (h1.2 b' hne)⟩

/-- (b) Request isolation in the code: in every reachable state of the `Arc` machine, operations on
    builder `b` change no session observation and no other builder's observation. -/
theorem C16_request_isolated_heap (hist ops : List SOp) (b : Nat)
    (hops : ∀ op ∈ ops, op.bldTarget = some b) :
    (∀ s, (((Heap.exec {} hist).exec ops).step (.obsSession s)).2
            = ((Heap.exec {} hist).step (.obsSession s)).2) ∧
    (∀ b', b' ≠ b → (((Heap.exec {} hist).exec ops).step (.obsBuilder b')).2
            = ((Heap.exec {} hist).step (.obsBuilder b')).2) := by
  have r := st_reach hist
  have key := C16_request_isolated_seq (Val.exec {} hist) ops b hops
  exact ⟨fun s => by rw [r.obs_exec ops, r.obs, key.1 s],
         fun b' hb => by rw [r.obs_exec ops, r.obs, key.2 b' hb]⟩

/-- non-vacuity: builder 0 of the example history is hammered (set, header, append, drop); session 0,
    session 1 and a second builder show the same before and after, on both machines. -/
example :
    let hist : List SOp := [.newSession, .sessHeader 0 [120] [49], .cloneSession 0, .create (some 0), .create (some 1)]
    let ops : List SOp := [.bldSet 0 .timeout 1, .bldHeader 0 [120] [50], .bldAppend 0 [120] [51], .dropBuilder 0]
    let q : List SOp := [.obsSession 0, .obsSession 1, .obsBuilder 1]
    (∀ op ∈ ops, op.bldTarget = some 0) ∧
    (Heap.run {} (hist ++ ops ++ q)).drop 9 = (Heap.run {} (hist ++ q)).drop 5 ∧
    (Heap.run {} (hist ++ q)).drop 5 =
      [some { sc := {}, sessHeaders := [([120], [49])], reqHeaders := [] },
       some { sc := {}, sessHeaders := [([120], [49])], reqHeaders := [] },
       some { sc := {}, sessHeaders := [([120], [49])], reqHeaders := [([120], [49])] }] ∧
    ((Heap.exec {} (hist ++ ops)).step (.obsBuilder 0)).2 = none := by decide +kernel

/-- (b) Clone isolation. `cloneSession s` on a live session creates session `s' = #sessions`:
    * the clone starts with the same observation;
    * whatever is then done that is not addressed to `s` (in particular: anything done to `s'` and to
      builders made from `s'`) leaves `obsSession s` as it was;
    * vice versa, whatever is not addressed to `s'` leaves `obsSession s'` as it was at the clone. -/
theorem C16_clone_isolated (w : Val) (s : Nat) (st : BaseSettings) (hs : getAt w.sessions s = some st) :
    ((w.step (.cloneSession s)).1.step (.obsSession w.sessions.length)).2 = (w.step (.obsSession s)).2 ∧
    (∀ ops, (∀ op ∈ ops, op.sessTarget ≠ some s) →
      (((w.step (.cloneSession s)).1.exec ops).step (.obsSession s)).2 = (w.step (.obsSession s)).2) ∧
    (∀ ops, (∀ op ∈ ops, op.sessTarget ≠ some w.sessions.length) →
      (((w.step (.cloneSession s)).1.exec ops).step (.obsSession w.sessions.length)).2
        = (w.step (.obsSession s)).2) := by
  have hlt := st_getAt_lt hs
  have e1 : (w.step (.cloneSession s)).1 = { w with sessions := w.sessions ++ [some st] } := by
    simp only [Val.step, hs]
  have e3 : getAt (w.sessions ++ [some st]) s = some st := by
    rw [st_getAt_append]; simp [hlt, hs]
  have first : ((w.step (.cloneSession s)).1.step (.obsSession w.sessions.length)).2
      = (w.step (.obsSession s)).2 := by
    rw [e1, st_val_obsS, st_val_obsS, hs]; simp only [st_getAt_append_last]
  refine ⟨first, ?_, ?_⟩
  · intro ops hops
    rw [C16_session_frame _ ops s (by rw [e1]; simp; omega) hops, e1, st_val_obsS, st_val_obsS, hs]
    simp only [e3]
  · intro ops hops
    rw [C16_session_frame _ ops _ (by rw [e1]; simp) hops, first]

/-- (b) Clone isolation in the code: in every reachable state, if session `s` shows `o`, then after
    `Session::clone` the clone shows `o`; `s` keeps showing `o` through anything not addressed to `s`,
    and the clone keeps showing `o` through anything not addressed to the clone. -/
theorem C16_clone_isolated_heap (hist : List SOp) (s : Nat) (o : Obs)
    (hs : ((Heap.exec {} hist).step (.obsSession s)).2 = some o) :
    (((Heap.exec {} hist).step (.cloneSession s)).1.step (.obsSession (Heap.exec {} hist).sessions.length)).2
      = some o ∧
    (∀ ops, (∀ op ∈ ops, op.sessTarget ≠ some s) →
      ((((Heap.exec {} hist).step (.cloneSession s)).1.exec ops).step (.obsSession s)).2 = some o) ∧
    (∀ ops, (∀ op ∈ ops, op.sessTarget ≠ some (Heap.exec {} hist).sessions.length) →
      ((((Heap.exec {} hist).step (.cloneSession s)).1.exec ops).step
        (.obsSession (Heap.exec {} hist).sessions.length)).2 = some o) := by
  have r := st_reach hist
  have r1 := r.next (.cloneSession s)
  obtain ⟨st, hv, rfl⟩ := r.obsS_some hs
  have key := C16_clone_isolated (Val.exec {} hist) s st hv
  rw [show ((Val.exec {} hist).step (.obsSession s)).2 = some (st_viewS st) by rw [st_val_obsS, hv]; rfl,
    ← r.slen] at key
  exact ⟨(r1.obs _).trans key.1, fun ops ho => (r1.obs_exec ops _).trans (key.2.1 ops ho),
    fun ops ho => (r1.obs_exec ops _).trans (key.2.2 ops ho)⟩

/-- non-vacuity: session 0 is cloned; the clone and a builder made from it are modified and dropped —
    session 0 shows the same; then session 0 is modified and dropped — the clone shows its own state. -/
example :
    let hist : List SOp := [.newSession, .sessHeader 0 [120] [49]]
    let ops1 : List SOp := [.sessSet 1 .proxy 3, .sessHeader 1 [120] [50], .create (some 1), .bldSet 0 .proxy 4,
                            .dropSession 1, .dropBuilder 0]
    let ops2 : List SOp := [.sessSet 0 .proxy 5, .sessAppend 0 [120] [52], .dropSession 0]
    (∀ op ∈ ops1, op.sessTarget ≠ some 0) ∧ (∀ op ∈ ops2, op.sessTarget ≠ some 1) ∧
    ((Heap.exec {} hist).step (.obsSession 0)).2
      = some { sc := {}, sessHeaders := [([120], [49])], reqHeaders := [] } ∧
    ((Heap.exec {} (hist ++ [.cloneSession 0] ++ ops1)).step (.obsSession 0)).2
      = ((Heap.exec {} hist).step (.obsSession 0)).2 ∧
    ((Heap.exec {} (hist ++ [.cloneSession 0] ++ ops2)).step (.obsSession 1)).2
      = ((Heap.exec {} hist).step (.obsSession 0)).2 ∧
    ((Heap.exec {} (hist ++ [.cloneSession 0] ++ ops2)).step (.obsSession 0)).2 = none := by decide +kernel

/-- a builder that has just been created shows, after any history, the fold of the operations addressed
    to it over the value it was created with -/
private theorem C16.new_builder (w : Val) (x : VBuilder) (ops : List SOp) :
    ((({ w with builders := w.builders ++ [some x] } : Val).exec ops).step (.obsBuilder w.builders.length)).2
      = (ops.foldl (fun y op => op.actB w.builders.length y) (some x)).map st_viewB := by
  rw [C16_builder_determined _ ops _ (by simp)]
  simp only [st_getAt_append_last]

/-- (b) Snapshot at creation. A builder made from a live session `s` (id `b = #builders`):
    * shows the scalars and headers `s` had at that moment, the headers also as its own header map;
    * afterwards its value is the fold of the operations addressed to `b` over that snapshot — so later
      `bldSet`s override it, and later `sessSet` / `sessHeader` on `s` (or anything else) do not matter;
    * in particular anything not addressed to `b` leaves `obsBuilder b` at the snapshot. -/
theorem C16_snapshot_at_creation (w : Val) (s : Nat) (st : BaseSettings)
    (hs : getAt w.sessions s = some st) :
    ((w.step (.create (some s))).1.step (.obsBuilder w.builders.length)).2
      = some { sc := st.sc, sessHeaders := st.headers, reqHeaders := st.headers } ∧
    (∀ ops, (((w.step (.create (some s))).1.exec ops).step (.obsBuilder w.builders.length)).2
      = (ops.foldl (fun x op => op.actB w.builders.length x)
          (some { settings := st, headers := st.headers })).map st_viewB) ∧
    (∀ ops, (∀ op ∈ ops, op.bldTarget ≠ some w.builders.length) →
      (((w.step (.create (some s))).1.exec ops).step (.obsBuilder w.builders.length)).2
        = some { sc := st.sc, sessHeaders := st.headers, reqHeaders := st.headers }) := by
  have e1 : (w.step (.create (some s))).1
      = { w with builders := w.builders ++ [some { settings := st, headers := st.headers }] } := by
    simp only [Val.step, hs]
  have second : ∀ ops, (((w.step (.create (some s))).1.exec ops).step (.obsBuilder w.builders.length)).2
      = (ops.foldl (fun x op => op.actB w.builders.length x)
          (some { settings := st, headers := st.headers })).map st_viewB := by
    intro ops; rw [e1]; exact C16.new_builder w _ ops
  refine ⟨?_, second, ?_⟩
  · have := second []
    simpa [Val.exec, st_viewB] using this
  · intro ops hops
    rw [second ops, st_foldl_actB_untargeted ops _ hops]
    rfl

/-- (b) a builder made without a session (`attohttpc::get(url)`) starts from the defaults -/
theorem C16_snapshot_default (w : Val) :
    (∀ ops, (((w.step (.create none)).1.exec ops).step (.obsBuilder w.builders.length)).2
      = (ops.foldl (fun x op => op.actB w.builders.length x)
          (some { settings := {}, headers := [] })).map st_viewB) :=
  C16.new_builder w _

/-- only the operations addressed to `b` count in the fold -/
theorem C16_actB_filter (ops : List SOp) (b : Nat) (x : Option VBuilder) :
    ops.foldl (fun x op => op.actB b x) x
      = (ops.filter (fun op => op.bldTarget == some b)).foldl (fun x op => op.actB b x) x := by
  induction ops generalizing x with
  | nil => rfl
  | cons op ops ih =>
    by_cases h : op.bldTarget = some b
    · simp [h, ih]
    · simp [h, ih, st_actB_untargeted h]

/-- (b) Snapshot at creation in the code: in every reachable state in which session `s` shows `o`, a
    builder created from `s` shows `o`'s scalars and headers (the headers also as request headers),
    and keeps showing that through anything not addressed to the builder itself. -/
theorem C16_snapshot_at_creation_heap (hist : List SOp) (s : Nat) (o : Obs)
    (hs : ((Heap.exec {} hist).step (.obsSession s)).2 = some o) :
    ∀ ops, (∀ op ∈ ops, op.bldTarget ≠ some (Heap.exec {} hist).builders.length) →
      ((((Heap.exec {} hist).step (.create (some s))).1.exec ops).step
        (.obsBuilder (Heap.exec {} hist).builders.length)).2
        = some { sc := o.sc, sessHeaders := o.sessHeaders, reqHeaders := o.sessHeaders } := by
  have r := st_reach hist
  intro ops ho
  obtain ⟨st, hv, rfl⟩ := r.obsS_some hs
  rw [(r.next _).obs_exec ops, r.blen]
  exact (C16_snapshot_at_creation _ s st hv).2.2 ops (r.blen ▸ ho)

/-- non-vacuity: builder 0 is made from session 0 (header `x: 1`); then the session is changed, cloned
    and dropped: the builder still shows the snapshot, overridden only by its own `bldSet`. -/
example :
    let hist : List SOp := [.newSession, .sessHeader 0 [120] [49], .sessSet 0 .maxHeaders 7]
    let ops : List SOp := [.sessSet 0 .maxHeaders 8, .sessHeader 0 [120] [50], .cloneSession 0,
                           .sessAppend 1 [121] [51], .dropSession 0]
    (∀ op ∈ ops, op.bldTarget ≠ some 0) ∧
    ((Heap.exec {} (hist ++ [.create (some 0)] ++ ops)).step (.obsBuilder 0)).2
      = some { sc := { maxHeaders := 7 }, sessHeaders := [([120], [49])], reqHeaders := [([120], [49])] } ∧
    ((Heap.exec {} (hist ++ [.create (some 0)] ++ ops ++ [.bldSet 0 .maxHeaders 3])).step (.obsBuilder 0)).2
      = some { sc := { maxHeaders := 3 }, sessHeaders := [([120], [49])], reqHeaders := [([120], [49])] } ∧
    ((Heap.exec {} (hist ++ [.create (some 0)] ++ ops)).step (.obsSession 1)).2
      = some { sc := { maxHeaders := 8 }, sessHeaders := [([120], [50]), ([121], [51])], reqHeaders := [] } := by
  decide +kernel

/-! ### (c) header semantics -/

/-- (c) `insert` (= `header`) replaces all values of the name, `append` (= `header_append`) adds one
    at the end; other names are untouched. -/
theorem C16_header_semantics (h : Headers) (n v : Bytes) :
    (h.insert n v).getAll n = [v] ∧
    (∀ n', n' ≠ n → (h.insert n v).getAll n' = h.getAll n') ∧
    (h.append n v).getAll n = h.getAll n ++ [v] ∧
    (∀ n', n' ≠ n → (h.append n v).getAll n' = h.getAll n') :=
  ⟨by rw [rq_getAll_insert, if_pos rfl], fun _ hne => by rw [rq_getAll_insert, if_neg hne],
   by rw [rq_getAll_append, if_pos rfl], fun _ hne => by rw [rq_getAll_append, if_neg hne, List.append_nil]⟩

/-- (c) what the four header operations do to the observation of their target (specification) -/
theorem C16_header_ops (w : Val) (i : Nat) (n v : Bytes) :
    (∀ st, getAt w.sessions i = some st →
      ((w.step (.sessHeader i n v)).1.step (.obsSession i)).2
        = some { sc := st.sc, sessHeaders := st.headers.insert n v, reqHeaders := [] } ∧
      ((w.step (.sessAppend i n v)).1.step (.obsSession i)).2
        = some { sc := st.sc, sessHeaders := st.headers.append n v, reqHeaders := [] }) ∧
    (∀ bl, getAt w.builders i = some bl →
      ((w.step (.bldHeader i n v)).1.step (.obsBuilder i)).2
        = some { sc := bl.settings.sc, sessHeaders := bl.settings.headers, reqHeaders := bl.headers.insert n v } ∧
      ((w.step (.bldAppend i n v)).1.step (.obsBuilder i)).2
        = some { sc := bl.settings.sc, sessHeaders := bl.settings.headers, reqHeaders := bl.headers.append n v }) := by
  constructor
  · intro st hs
    have hlt := st_getAt_lt hs
    constructor <;>
    · rw [st_val_obsS, st_val_sess_step w _ hlt]; simp [SOp.actS, hs, st_viewS]
  · intro bl hb
    have hlt := st_getAt_lt hb
    constructor <;>
    · rw [st_val_obsB, st_val_bld_step w _ hlt]; simp [SOp.actB, hb, st_viewB]

/-- (c) session level, in `getAll` terms: after `sessHeader s n v` the session shows exactly `[v]` for
    `n`; after `sessAppend` the old values followed by `v`; every other name as before; scalars as
    before. -/
theorem C16_header_semantics_session (w : Val) (s : Nat) (st : BaseSettings) (n v : Bytes)
    (hs : getAt w.sessions s = some st) :
    (∃ o, ((w.step (.sessHeader s n v)).1.step (.obsSession s)).2 = some o ∧ o.sc = st.sc ∧
      o.sessHeaders.getAll n = [v] ∧ ∀ n', n' ≠ n → o.sessHeaders.getAll n' = st.headers.getAll n') ∧
    (∃ o, ((w.step (.sessAppend s n v)).1.step (.obsSession s)).2 = some o ∧ o.sc = st.sc ∧
      o.sessHeaders.getAll n = st.headers.getAll n ++ [v] ∧
      ∀ n', n' ≠ n → o.sessHeaders.getAll n' = st.headers.getAll n') := by
  obtain ⟨h1, h2⟩ := (C16_header_ops w s n v).1 st hs
  obtain ⟨i1, i2, a1, a2⟩ := C16_header_semantics st.headers n v
  exact ⟨⟨_, h1, rfl, i1, i2⟩, ⟨_, h2, rfl, a1, a2⟩⟩

/-- (c) builder level: `bldHeader` / `bldAppend` act on the request's own header map only; the settings
    part of the observation (scalars, session-level headers) is unchanged. -/
theorem C16_header_semantics_builder (w : Val) (b : Nat) (bl : VBuilder) (n v : Bytes)
    (hb : getAt w.builders b = some bl) :
    (∃ o, ((w.step (.bldHeader b n v)).1.step (.obsBuilder b)).2 = some o ∧ o.sc = bl.settings.sc ∧
      o.sessHeaders = bl.settings.headers ∧
      o.reqHeaders.getAll n = [v] ∧ ∀ n', n' ≠ n → o.reqHeaders.getAll n' = bl.headers.getAll n') ∧
    (∃ o, ((w.step (.bldAppend b n v)).1.step (.obsBuilder b)).2 = some o ∧ o.sc = bl.settings.sc ∧
      o.sessHeaders = bl.settings.headers ∧
      o.reqHeaders.getAll n = bl.headers.getAll n ++ [v] ∧
      ∀ n', n' ≠ n → o.reqHeaders.getAll n' = bl.headers.getAll n') := by
  obtain ⟨h1, h2⟩ := (C16_header_ops w b n v).2 bl hb
  obtain ⟨i1, i2, a1, a2⟩ := C16_header_semantics bl.headers n v
  exact ⟨⟨_, h1, rfl, rfl, i1, i2⟩, ⟨_, h2, rfl, rfl, a1, a2⟩⟩

/-- (c) in the code: in every reachable state where session `s` shows `o`, `Session::header` /
    `header_append` make it show `o` with the header replaced / appended. -/
theorem C16_header_semantics_heap (hist : List SOp) (s : Nat) (o : Obs) (n v : Bytes)
    (hs : ((Heap.exec {} hist).step (.obsSession s)).2 = some o) :
    (((Heap.exec {} hist).step (.sessHeader s n v)).1.step (.obsSession s)).2
      = some { o with sessHeaders := o.sessHeaders.insert n v } ∧
    (((Heap.exec {} hist).step (.sessAppend s n v)).1.step (.obsSession s)).2
      = some { o with sessHeaders := o.sessHeaders.append n v } := by
  have r := st_reach hist
  obtain ⟨st, hv, rfl⟩ := r.obsS_some hs
  obtain ⟨h1, h2⟩ := (C16_header_ops (Val.exec {} hist) s n v).1 st hv
  exact ⟨by rw [(r.next _).obs, h1]; rfl, by rw [(r.next _).obs, h2]; rfl⟩

/-- non-vacuity: replace after two appends leaves one value; another name is untouched -/
example :
    let h : Headers := [([120], [49]), ([121], [50]), ([120], [51])]
    h.getAll [120] = [[49], [51]] ∧ (h.insert [120] [52]).getAll [120] = [[52]] ∧
    (h.insert [120] [52]).getAll [121] = [[50]] ∧ (h.append [120] [52]).getAll [120] = [[49], [51], [52]] := by
  decide +kernel

example :
    ((Heap.exec {} [.newSession, .sessAppend 0 [120] [49], .sessAppend 0 [120] [50], .sessHeader 0 [120] [51],
        .sessAppend 0 [120] [52]]).step (.obsSession 0)).2
      = some { sc := {}, sessHeaders := [([120], [51]), ([120], [52])], reqHeaders := [] } := by decide +kernel

/-! ### (d) the defaults `try_prepare` adds -/

/-- (d) `Accept: */*` is added iff the caller gave no `Accept`; otherwise the caller's values stay. -/
theorem C16_defaults_accept (s : PrepSettings) (h : Headers) (b : BodyM) :
    (tryPrepare s h b).getAll (str "accept")
      = if h.contains (str "accept") then h.getAll (str "accept") else [str "*/*"] := by
  rw [rq_tryPrepare_accept, rq_contains_eq]
  cases h.getAll (str "accept") <;> rfl

/-- (d) `User-Agent: <DEFAULT_USER_AGENT>` is added iff the caller gave none. -/
theorem C16_defaults_user_agent (s : PrepSettings) (h : Headers) (b : BodyM) :
    (tryPrepare s h b).getAll (str "user-agent")
      = if h.contains (str "user-agent") then h.getAll (str "user-agent") else [s.userAgent] := by
  rw [rq_tryPrepare_userAgent, rq_contains_eq]
  cases h.getAll (str "user-agent") <;> rfl

/-- (d) with compression allowed `Accept-Encoding` is forced to `gzip, deflate` (the caller's values
    are replaced); with compression off the caller's values go through and nothing is added. -/
theorem C16_defaults_accept_encoding (s : PrepSettings) (h : Headers) (b : BodyM) :
    (tryPrepare s h b).getAll (str "accept-encoding")
      = if s.allowCompression then [str "gzip, deflate"] else h.getAll (str "accept-encoding") :=
  rq_tryPrepare_acceptEncoding s h b

/-- (d) all three together -/
theorem C16_defaults (s : PrepSettings) (h : Headers) (b : BodyM) :
    (tryPrepare s h b).getAll (str "accept")
      = (if h.contains (str "accept") then h.getAll (str "accept") else [str "*/*"]) ∧
    (tryPrepare s h b).getAll (str "user-agent")
      = (if h.contains (str "user-agent") then h.getAll (str "user-agent") else [s.userAgent]) ∧
    (tryPrepare s h b).getAll (str "accept-encoding")
      = (if s.allowCompression then [str "gzip, deflate"] else h.getAll (str "accept-encoding")) :=
  ⟨C16_defaults_accept s h b, C16_defaults_user_agent s h b, C16_defaults_accept_encoding s h b⟩

/-- non-vacuity: a caller-supplied `accept` and `accept-encoding`, compression on and off -/
example :
    let h : Headers := [(str "accept", str "text/html"), (str "accept-encoding", str "br")]
    let b : BodyM := { kind := .known 3, contentType := some (str "text/plain"), writes := [[1, 2, 3]] }
    (tryPrepare ⟨true, str "ua"⟩ h b).getAll (str "accept") = [str "text/html"] ∧
    (tryPrepare ⟨true, str "ua"⟩ h b).getAll (str "user-agent") = [str "ua"] ∧
    (tryPrepare ⟨true, str "ua"⟩ h b).getAll (str "accept-encoding") = [str "gzip, deflate"] ∧
    (tryPrepare ⟨false, str "ua"⟩ h b).getAll (str "accept-encoding") = [str "br"] ∧
    (tryPrepare ⟨false, str "ua"⟩ [] b).getAll (str "accept") = [str "*/*"] ∧
    (tryPrepare ⟨false, str "ua"⟩ [] b).getAll (str "accept-encoding") = [] := by decide +kernel


/-- Tie to the source: the model's default settings are the field values of
    `BaseSettings::default()` extracted from src/request/settings.rs on this run. -/
theorem C16_defaults_table :
    ({} : Scalars).maxHeaders = Consts.defaultMaxHeaders ∧
    ({} : Scalars).maxRedirections = Consts.defaultMaxRedirections ∧
    ({} : Scalars).followRedirects = Consts.defaultFollowRedirects ∧
    ({} : Scalars).connectTimeout = Consts.defaultConnectTimeoutMs ∧
    ({} : Scalars).readTimeout = Consts.defaultReadTimeoutMs ∧
    (({} : Scalars).timeout = none) = (Consts.defaultTimeoutNone = true) ∧
    ({} : Scalars).allowCompression = Consts.defaultAllowCompression := by decide +kernel

end Atto
