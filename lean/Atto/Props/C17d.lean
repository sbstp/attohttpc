/-
  Atto/Props/C17d.lean — property C17, the overall deadline: with `deadline = some dl` the
  connection phase (`Happy.connect`, Atto/Model/Happy.lean) is over by `dl`, for the race and for
  the single-address fast path (fix F19).  Lemmas: Atto/Lemmas/HappyLemmas.lean
  (`hp_connect_sound` with: clock ≤ dl, every attempt completes by dl).
-/
import Atto.Lemmas.HappyLemmas
namespace Atto
open Happy

/-- With an overall deadline `dl`, the connection phase is over by `dl`, whatever the addresses do:
    whether `connect` succeeds or fails, the time at which it returns is at most `dl` — for the
    race proper and for the single-address fast path alike (the latter since fix F19). -/
theorem C17_deadline_bounds_connect (addrs : List Addr) (timeout dl rd : Nat) :
    match connect addrs timeout (some dl) rd with
    | .ok _ t => t ≤ dl
    | .err _ _ t => t ≤ dl
    | .noDns => True := by
  -- the clock and every attempt's completion stay at or below `dl`
  have := hp_connect_sound (P := fun p => p.done ≤ dl) (T := fun t => t ≤ dl) (rd := rd) (addrs := addrs)
    (fun _ _ h1 h2 => Nat.max_le.mpr ⟨h1, h2⟩) (fun _ _ _ h2 h3 => by omega)
    (fun a _ t h => hp_pend_done_le timeout dl a t h) (Nat.zero_le _)
  cases h : connect addrs timeout (some dl) rd <;> rw [h] at this
  · exact this.1
  · exact this.1
  · trivial

set_option linter.unusedVariables false in
/-- the same, read as a statement about an attempt that is started at or after the deadline: it
    fails at once with a timeout and never dials -/
theorem C17_attempt_after_deadline (a : Addr) (timeout dl t : Nat) (h : dl ≤ t) :
    attemptLimit timeout (some dl) t = none :=
  hp_attemptLimit_past timeout dl t h

/-- without a deadline nothing is cut: every attempt may use the whole connect timeout -/
theorem C17_no_deadline_full_timeout (timeout t : Nat) : attemptLimit timeout none t = some timeout :=
  rfl

/-! ### non-vacuity -/

def c17d_b0 : Addr := { fam := .v6, beh := .blackhole, id := 0 }
def c17d_b1 : Addr := { fam := .v6, beh := .blackhole, id := 1 }
def c17d_b2 : Addr := { fam := .v4, beh := .blackhole, id := 2 }
def c17d_b3 : Addr := { fam := .v4, beh := .blackhole, id := 3 }

/-- (i) a single black hole, connect timeout 1000, deadline 300: the fast path gives up at 300, not
    at 1000 (before fix F19: 1000) -/
example : connect [c17d_b0] 1000 (some 300) 200 = .err c17d_b0.id .timedOut 300 := by decide

/-- (ii) four black holes, two per family (dial order b0, b2, b1, b3 at 0, 200, 300, 300): every
    attempt is cut at 300; the first error, that of b0, is reported at 300 -/
example : connect [c17d_b0, c17d_b1, c17d_b2, c17d_b3] 1000 (some 300) 200 = .err 0 .timedOut 300 := by
  decide
example : ∃ id t, connect [c17d_b0, c17d_b1, c17d_b2, c17d_b3] 1000 (some 300) 200 = .err id .timedOut t ∧
    t ≤ 300 := ⟨0, 300, by decide, by decide⟩

/-- the theorem on that instance -/
example : (300 : Nat) ≤ 300 := by
  have h := C17_deadline_bounds_connect [c17d_b0, c17d_b1, c17d_b2, c17d_b3] 1000 300 200
  rw [show connect [c17d_b0, c17d_b1, c17d_b2, c17d_b3] 1000 (some 300) 200 = .err 0 .timedOut 300 by
    decide] at h
  exact h

/-- without the deadline the same four black holes cost the whole connect timeout of the last attempt -/
example : connect [c17d_b0, c17d_b1, c17d_b2, c17d_b3] 1000 none 200 = .err 0 .timedOut 1600 := by decide

/-- a success is bounded as well: an address accepting after 250 ms, started at 0, deadline 300 -/
example : connect [{ c17d_b0 with beh := .accept 250 }, c17d_b2] 1000 (some 300) 200 = .ok 0 250 := by
  decide
/-- and an address that would accept at 350 is cut at the deadline -/
example : connect [{ c17d_b0 with beh := .accept 350 }, c17d_b2] 1000 (some 300) 200 =
    .err 0 .timedOut 300 := by decide

example : attemptLimit 1000 (some 300) 300 = none := C17_attempt_after_deadline c17d_b0 1000 300 300 (by decide)
example : attemptLimit 1000 (some 300) 200 = some 100 := by decide
example : attemptLimit 1000 none 200 = some 1000 := C17_no_deadline_full_timeout 1000 200

end Atto
