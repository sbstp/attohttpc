/-
  Atto/Props/C13.lean — property C13: "timeouts bound every phase, and only real timeouts are
  reported".  Model: Atto/Model/Watchdog.lean (the deadline watchdog thread of `connect_tcp` and the
  reader's side `read_timeout`, as a timed transition system).  Reachability (`Wd.Reach`, labelled
  runs `Wd.Trace`), the invariant `Wd.Inv` and the case analysis of `read` are in
  Atto/Lemmas/WatchdogLemmas.lean.  All statements quantify over EVERY state reachable from
  `init d rt` (watchdog installed and waiting, reader holds its sender) by any interleaving of clock
  advances, peer sends (while the socket is not shut), peer close, reads with a non-empty buffer and
  dropping the response — or over every `run` scenario.

    (a) `C13_timedout_sound`      a `TimedOut` is reported only once the deadline has passed (and
                                  the watchdog has fired and shut the socket);
        `C13_eof_genuine`         with the sender held, `Ok(0)` is passed on only for a peer close
                                  strictly before the deadline on a socket that is not shut;
    (b) `C13_complete_never_timedout`  after an `Ok(0)` every later read, at any later time, is `Ok(0)`;
    (c) `C13_cut_not_clean`       socket shut by the watchdog, nothing left to deliver: `TimedOut`,
                                  never `Ok(0)`; `C13_alive`: no drop, no `Ok(0)` so far ⇒ sender held;
    (d) `C13_data_first`, `C13_conserve`, `C13_no_fabrication`;
    (e) `C13_release`, `C13_release_exits`, `C13_exited_never_shuts`;
    (f) `C13_bound_model`, `C13_after_deadline_immediate`, `C13_reads_bounded`.

  `WdState.droppedRx` is never produced by the model's functions (firing is atomic: `fireIfDue`
  goes from `waiting` to `fired` and sets `shut` in one step); `Inv.noDropped` records it.
-/
import Atto.Lemmas.WatchdogLemmas
namespace Atto
open Atto.Wd

/-! ### the invariant of reachable states -/

theorem C13_invariant {d rt : Nat} {s : St} (r : Reach (init d rt) s) :
    s.wd ≠ .droppedRx ∧ (s.wd = .fired ↔ s.shut = true) ∧ (s.wd = .fired → s.deadline ≤ s.now) ∧
    (s.wd = .exited → s.hasTx = false) ∧ (s.wd = .waiting → s.hasTx = true) ∧ s.deadline = d := by
  have h := wd_inv_of_init r
  exact ⟨h.noDropped, ⟨h.fired_shut, h.shut_fired⟩, h.fired_due, h.exited_noTx, h.waiting_tx,
    wd_deadline_reach r⟩

/-- every `run` scenario (reads with non-empty buffers) ends in a reachable state -/
theorem C13_run_reach (d rt : Nat) (evs : List (Nat × Ev))
    (hn : ∀ e ∈ evs, wd_readPos e.2 = true) : Reach (init d rt) (wd_exec (init d rt) evs) :=
  wd_exec_reach _ evs hn

example : Reach (init 100 30) (advance (init 100 30) 80) := (Reach.refl _).step (.adv _ 80)
example : (wd_exec (init 100 30) [(10, .send 5), (120, .read 4)]).shut = true := by decide

/-! ### (a) only real timeouts -/

theorem C13_timedout_sound {d rt : Nat} {s s' : St} {n : Nat} (r : Reach (init d rt) s)
    (hr : read s n = (.timedOut, s')) : s'.deadline ≤ s'.now :=
  (wd_timedOut_sound (wd_inv_of_init r) hr).1

/-- … and by then the watchdog has fired and shut the socket down -/
theorem C13_timedout_fired {d rt : Nat} {s s' : St} {n : Nat} (r : Reach (init d rt) s)
    (hr : read s n = (.timedOut, s')) : s'.wd = .fired ∧ s'.shut = true :=
  (wd_timedOut_sound (wd_inv_of_init r) hr).2

/-- read at 80 with a 30 ms receive timeout, deadline 100: woken by the shutdown at 100 -/
example : ∃ s', read (advance (init 100 30) 80) 10 = (.timedOut, s') ∧ s'.now = 100 :=
  ⟨_, rfl, by decide⟩
example : (read (advance (init 100 30) 80) 10).2.deadline ≤ (read (advance (init 100 30) 80) 10).2.now :=
  C13_timedout_sound (s := advance (init 100 30) 80) (n := 10) ((Reach.refl _).step (.adv _ 80)) rfl
/-- the receive timeout expiring before the deadline is NOT reported as `TimedOut` by `read_timeout` -/
example : (read (advance (init 100 30) 20) 10).1 = .wouldBlock := by decide

/-- on scenarios: whenever the read that ends a scenario reports `TimedOut`, the clock has reached `d` -/
theorem C13_timedout_sound_run (d rt : Nat) (pre : List (Nat × Ev))
    (hpre : ∀ e ∈ pre, wd_readPos e.2 = true) (t n : Nat)
    (h : (read (advance (wd_exec (init d rt) pre) t) n).1 = .timedOut) :
    d ≤ (read (advance (wd_exec (init d rt) pre) t) n).2.now := by
  have r : Reach (init d rt) (advance (wd_exec (init d rt) pre) t) :=
    (wd_exec_reach _ pre hpre).step (.adv _ t)
  have h1 := C13_timedout_sound r (n := n) (s' := (read (advance (wd_exec (init d rt) pre) t) n).2)
    (by rw [← h])
  rw [wd_read_deadline, wd_deadline_reach r] at h1
  exact h1

example : 100 ≤ (read (advance (wd_exec (init 100 30) [(10, .send 4), (60, .read 9)]) 95) 9).2.now :=
  C13_timedout_sound_run 100 30 _ (by decide) 95 9 (by decide)

/-- with the sender held, `Ok(0)` reaches the caller only if the peer closed, the socket is not
    shut and the deadline has not been reached; the watchdog then stands down without ever
    touching the socket -/
theorem C13_eof_genuine {d rt : Nat} {s s' : St} {n : Nat} (r : Reach (init d rt) s)
    (hx : s.hasTx = true) (hr : read s n = (.eof, s')) :
    s.peerClosed = true ∧ s.shut = false ∧ s.now < s.deadline ∧ s'.wd = .exited ∧ s'.shut = false ∧
      s'.hasTx = false ∧ s'.now = s.now :=
  wd_eof_genuine (wd_inv_of_init r) hx hr

example : (read { advance (init 100 30) 20 with peerClosed := true } 10).1 = .eof := by decide

/-! ### (b) reads after the end of the body -/

/-- Once a read has returned `Ok(0)`, every later read — whatever the buffer sizes, whatever the
    times, also long after the deadline, also after the peer "closes again" or the response is
    dropped — returns `Ok(0)`; in particular never `TimedOut`.  (No further data: the continuation
    contains no `send`.) -/
theorem C13_complete_never_timedout {s s' : St} {n : Nat} (hr : read s n = (.eof, s'))
    (evs : List (Nat × Ev)) (hns : ∀ e ∈ evs, wd_isSend e.2 = false) :
    run s' evs = List.replicate (wd_readCount evs) .eof :=
  wd_done_run (wd_done_of_eof hr) evs hns

theorem C13_complete_never_timedout' {s s' : St} {n : Nat} (hr : read s n = (.eof, s'))
    (evs : List (Nat × Ev)) (hns : ∀ e ∈ evs, wd_isSend e.2 = false) :
    ∀ o ∈ run s' evs, o = .eof ∧ o ≠ .timedOut := by
  intro o ho
  rw [C13_complete_never_timedout hr evs hns] at ho
  rw [List.eq_of_mem_replicate ho]; exact ⟨rfl, by simp⟩

/-- the same on a whole scenario: prefix, the read that saw the end, continuation -/
theorem C13_complete_never_timedout_run (s : St) (pre : List (Nat × Ev)) (t n : Nat)
    (evs : List (Nat × Ev)) (hns : ∀ e ∈ evs, wd_isSend e.2 = false)
    (he : (read (advance (wd_exec s pre) t) n).1 = .eof) :
    run s (pre ++ (t, .read n) :: evs) = run s pre ++ .eof :: List.replicate (wd_readCount evs) .eof := by
  rw [wd_run_append]
  simp only [run]
  rw [he, C13_complete_never_timedout (s := advance (wd_exec s pre) t) (n := n) (by rw [← he]) evs hns]

/-- deadline 100; the peer closes at 10, the caller sees the end at 20, and keeps reading at 150
    and 200: `Ok(0)` every time -/
example : run (init 100 30) [(5, .send 3), (10, .close), (15, .read 8), (20, .read 8), (150, .read 8),
    (200, .read 1)] = [.data 3, .eof, .eof, .eof] := by decide
example : run (init 100 30) ([(5, .send 3), (10, .close), (15, .read 8)] ++ (20, .read 8) ::
    [(150, .read 8), (160, .drop), (200, .read 1)]) =
    run (init 100 30) [(5, .send 3), (10, .close), (15, .read 8)] ++ .eof :: List.replicate 2 .eof :=
  C13_complete_never_timedout_run _ _ 20 8 _ (by decide) (by decide)
/-- whereas an end of stream first OBSERVED after the deadline is a timeout (the watchdog has fired) -/
example : run (init 100 30) [(10, .close), (150, .read 8)] = [.timedOut] := by decide

/-! ### (c) a body cut by the deadline is never reported as complete -/

/-- The watchdog has shut the socket, nothing is left to deliver, the response is alive: the read
    returns `TimedOut` (and changes nothing) — never `Ok(0)`.  Whether the peer had closed or not
    does not matter; the form asked for (`peerClosed = false`) is the instance below. -/
theorem C13_cut_not_clean' {d rt : Nat} {s : St} (r : Reach (init d rt) s) (n : Nat)
    (hs : s.shut = true) (hq : s.queued = 0) (hb : s.buffered = 0) (hx : s.hasTx = true) :
    read s n = (.timedOut, s) :=
  wd_cut n ((wd_inv_of_init r).shut_fired hs) hs hq hb hx

theorem C13_cut_not_clean {d rt : Nat} {s : St} (r : Reach (init d rt) s) (n : Nat)
    (hs : s.shut = true) (_hp : s.peerClosed = false) (hq : s.queued = 0) (hb : s.buffered = 0)
    (hx : s.hasTx = true) : (read s n).1 = .timedOut := by
  rw [C13_cut_not_clean' r n hs hq hb hx]

/-- the socket is shut only by the watchdog, at or after the deadline -/
theorem C13_shut_fired {d rt : Nat} {s : St} (r : Reach (init d rt) s) (hs : s.shut = true) :
    s.wd = .fired ∧ s.deadline ≤ s.now :=
  ⟨(wd_inv_of_init r).shut_fired hs, (wd_inv_of_init r).fired_due ((wd_inv_of_init r).shut_fired hs)⟩

/-- As long as the response has not been dropped and no read has returned `Ok(0)`, the reader holds
    its sender — so the hypothesis `hasTx` of `C13_cut_not_clean` is met. -/
theorem C13_alive {d rt : Nat} {s : St} {l : List Lbl} (tr : Trace (init d rt) l s)
    (hd : Lbl.drop ∉ l) (he : ∀ n, Lbl.read n .eof ∉ l) : s.hasTx = true :=
  wd_trace_hasTx tr rfl hd he

theorem C13_cut_not_clean_trace {d rt : Nat} {s : St} {l : List Lbl} (tr : Trace (init d rt) l s)
    (hd : Lbl.drop ∉ l) (he : ∀ n, Lbl.read n .eof ∉ l) (n : Nat)
    (hs : s.shut = true) (hq : s.queued = 0) (hb : s.buffered = 0) : read s n = (.timedOut, s) :=
  C13_cut_not_clean' ⟨l, tr⟩ n hs hq hb (C13_alive tr hd he)

/-- 10 bytes of a longer body arrive, the deadline passes: the data, then `TimedOut` for ever -/
example : run (init 100 30) [(10, .send 10), (120, .read 8), (121, .read 8), (122, .read 8),
    (300, .read 8)] = [.data 8, .data 2, .timedOut, .timedOut] := by decide
example : (read (advance (init 100 30) 120) 8).1 = .timedOut :=
  C13_cut_not_clean (s := advance (init 100 30) 120) ((Reach.refl _).step (.adv _ 120)) 8
    (by decide) (by decide) (by decide) (by decide) (by decide)
example : Trace (init 100 30) [.adv 120] (advance (init 100 30) 120) := .cons (.adv _ 120) (.nil _)

/-! ### (d) data first; nothing fabricated -/

/-- Whatever the watchdog has done: while bytes are buffered or queued, a read with a non-empty
    buffer returns data (between 1 and `n` bytes). -/
theorem C13_data_first (s : St) (n : Nat) (hn : 0 < n) (hd : 0 < s.buffered + s.queued) :
    ∃ k, 0 < k ∧ k ≤ n ∧ (read s n).1 = .data k := by
  have hc := wd_read_cases s n
  have e1 : (fireIfDue s).buffered = s.buffered := by rw [wd_fire_eq]
  have e2 : (fireIfDue s).queued = s.queued := by rw [wd_fire_eq]
  generalize read s n = r at hc
  cases hc with
  | buffered h => exact ⟨_, by omega, by omega, rfl⟩
  | socket h1 h2 => exact ⟨_, by omega, by omega, rfl⟩
  | _ => omega

/-- a read hands out exactly what leaves the two buffers -/
theorem C13_conserve (s : St) (n : Nat) :
    (read s n).2.buffered + (read s n).2.queued + wd_bytes (read s n).1 = s.buffered + s.queued := by
  have hc := wd_read_cases s n
  have e1 : (fireIfDue s).buffered = s.buffered := by rw [wd_fire_eq]
  have e2 : (fireIfDue s).queued = s.queued := by rw [wd_fire_eq]
  generalize read s n = r at hc
  cases hc with
  | socket h1 h2 => simp only [wd_bytes]; split <;> omega
  | _ => simp only [wd_bytes, wd_adv_eq]; omega

/-- the bytes delivered by the reads of a scenario never exceed what was there plus what the peer sent -/
theorem C13_no_fabrication (s : St) (evs : List (Nat × Ev)) :
    wd_delivered (run s evs) ≤ s.buffered + s.queued + wd_sent evs := by
  induction evs generalizing s with
  | nil => simp [run, wd_delivered]
  | cons e rest ih =>
    obtain ⟨t, ev⟩ := e
    have e1 : (advance s t).buffered = s.buffered := by rw [wd_adv_eq]
    have e2 : (advance s t).queued = s.queued := by rw [wd_adv_eq]
    cases ev with
    | send k =>
      simp only [run, wd_sent]
      split
      · have := ih (advance s t); omega
      · have := ih { advance s t with queued := (advance s t).queued + k }
        simp only at this; omega
    | close =>
      simp only [run, wd_sent]
      have := ih { advance s t with peerClosed := true }
      simp only at this; omega
    | read k =>
      simp only [run, wd_sent, wd_delivered]
      have := ih (read (advance s t) k).2
      have := C13_conserve (advance s t) k
      omega
    | drop =>
      simp only [run, wd_sent]
      have := ih (dropResponse (advance s t))
      have e3 : (dropResponse (advance s t)).buffered = (advance s t).buffered := rfl
      have e4 : (dropResponse (advance s t)).queued = (advance s t).queued := rfl
      omega

theorem C13_no_fabrication_init (d rt : Nat) (evs : List (Nat × Ev)) :
    wd_delivered (run (init d rt) evs) ≤ wd_sent evs := by
  have := C13_no_fabrication (init d rt) evs
  simpa [init] using this

/-- shut socket, 10 bytes still queued: they are delivered (small caller buffer: through the BufReader) -/
example : ∃ k, 0 < k ∧ k ≤ 4 ∧
    (read { advance (init 100 30) 120 with queued := 10 } 4).1 = .data k :=
  C13_data_first _ 4 (by decide) (by decide)
example : run (init 100 30) [(10, .send 10), (120, .read 4), (120, .read 4), (120, .read 4),
    (120, .read 4)] = [.data 4, .data 4, .data 2, .timedOut] := by decide
/-- bytes sent after the shutdown are lost, none are invented -/
example : wd_delivered (run (init 100 30) [(10, .send 10), (120, .send 7), (130, .read 64), (131, .read 64)])
    = 10 ∧ wd_sent [(10, .send 10), (120, .send 7), (130, .read 64), (131, .read 64)] = 17 := by decide

/-! ### (e) dropping the response releases the watchdog -/

/-- in one step: no sender, no pending wait -/
theorem C13_release (s : St) : (dropResponse s).hasTx = false ∧ (dropResponse s).wd ≠ .waiting := by
  refine ⟨rfl, ?_⟩
  simp only [dropResponse]
  split
  · simp
  · assumption

/-- in a reachable state whose socket is not shut, the watchdog exits -/
theorem C13_release_exits {d rt : Nat} {s : St} (r : Reach (init d rt) s) (hs : s.shut = false) :
    (dropResponse s).wd = .exited ∧ (dropResponse s).shut = false :=
  wd_drop_exited (wd_inv_of_init r) hs

/-- a watchdog that has exited stays exited and never shuts the socket, whatever happens later -/
theorem C13_exited_never_shuts {s s' : St} (r : Reach s s') (h : s.wd = .exited) :
    s'.wd = .exited ∧ s'.shut = s.shut :=
  r.preserves (P := fun x => x.wd = .exited ∧ x.shut = s.shut)
    (fun x a x' hp st => by
      obtain ⟨h1, h2⟩ := wd_exited_step st hp.1
      exact ⟨h1, h2.trans hp.2⟩) ⟨h, rfl⟩

/-- dropped before the deadline: the socket is never shut by this watchdog -/
theorem C13_drop_never_shuts {d rt : Nat} {s s' : St} (r : Reach (init d rt) s) (hs : s.shut = false)
    (r' : Reach (dropResponse s) s') : s'.shut = false := by
  obtain ⟨h1, h2⟩ := C13_release_exits r hs
  rw [(C13_exited_never_shuts r' h1).2, h2]

/-- the same after a genuine end of stream (the ping released the watchdog) -/
theorem C13_eof_never_shuts {d rt : Nat} {s s1 s' : St} {n : Nat} (r : Reach (init d rt) s)
    (hx : s.hasTx = true) (hr : read s n = (.eof, s1)) (r' : Reach s1 s') : s'.shut = false := by
  obtain ⟨_, _, _, h1, h2, _⟩ := C13_eof_genuine r hx hr
  rw [(C13_exited_never_shuts r' h1).2, h2]

example : (dropResponse (advance (init 100 30) 20)).wd = .exited := by decide
example : (wd_exec (init 100 30) [(20, .drop), (500, .send 3), (600, .read 2)]).shut = false :=
  C13_drop_never_shuts (s := advance (init 100 30) 20) ((Reach.refl _).step (.adv _ 20)) (by decide)
    (wd_exec_reach _ [(500, .send 3), (600, .read 2)] (by decide))
/-- dropped after the watchdog fired: nothing left to release (it is gone already) -/
example : (dropResponse (advance (init 100 30) 120)).wd = .fired := by decide

/-! ### (f) how long a read can block -/

/-- One read never takes longer than the receive timeout, and while the watchdog is armed it
    returns by `max now deadline`. -/
theorem C13_bound_model (s : St) (n : Nat) :
    s.now ≤ (read s n).2.now ∧ (read s n).2.now ≤ s.now + s.readTimeout ∧
    (s.wd = .waiting → s.hasTx = true → (read s n).2.now ≤ max s.now s.deadline) :=
  wd_read_time s n

/-- the single-formula form -/
theorem C13_bound_model' (s : St) (n : Nat) :
    (read s n).2.now ≤ max s.now (min (s.now + s.readTimeout)
      (if s.hasTx = true ∧ s.wd = .waiting then max s.now s.deadline else s.now + s.readTimeout)) := by
  obtain ⟨_, h2, h3⟩ := C13_bound_model s n
  split
  · next h => have := h3 h.2 h.1; omega
  · omega

/-- At or after the deadline, with the response alive, every read returns at once — with data or
    with `TimedOut` (never `Ok(0)`, never after blocking). -/
theorem C13_after_deadline_immediate {d rt : Nat} {s : St} (r : Reach (init d rt) s) (n : Nat)
    (hx : s.hasTx = true) (hd : s.deadline ≤ s.now) :
    (read s n).2.now = s.now ∧ ((∃ k, (read s n).1 = .data k) ∨ (read s n).1 = .timedOut) :=
  wd_read_immediate (wd_inv_of_init r) n hx hd

/-- the form with the watchdog's state: armed or fired, deadline reached ⇒ the read does not block
    (also when the response has been dropped after the firing) -/
theorem C13_after_deadline_immediate' {d rt : Nat} {s : St} (r : Reach (init d rt) s) (n : Nat)
    (hw : s.wd = .waiting ∨ s.wd = .fired) (hd : s.deadline ≤ s.now) :
    (read s n).2.now = s.now ∧ (read s n).1 ≠ .wouldBlock :=
  wd_read_shut_immediate n (wd_fire_due_shut (wd_inv_of_init r) hd hw)

/-- the response is alive exactly when the watchdog is armed or has fired -/
theorem C13_alive_armed_or_fired {d rt : Nat} {s : St} (r : Reach (init d rt) s)
    (hx : s.hasTx = true) : s.wd = .waiting ∨ s.wd = .fired :=
  (wd_inv_of_init r).alive hx

/-- Hence: a caller that does nothing but read — any number of reads, any buffer sizes, each
    returning data, `WouldBlock`, `TimedOut` or `Ok(0)` — is never kept past `max now deadline`. -/
theorem C13_reads_bounded {d rt : Nat} {s s' : St} {l : List Lbl} (r : Reach (init d rt) s)
    (hx : s.hasTx = true) (tr : Trace s l s') (hl : ∀ a ∈ l, ∃ n o, a = .read n o) :
    s'.now ≤ max s.now s.deadline :=
  wd_reads_bounded (wd_inv_of_init r) hx tr hl

/-- deadline 100, receive timeout 30, a silent peer: reads from 20 on return at 50, 80, 100, 100, … -/
example : (read (advance (init 100 30) 20) 8).2.now = 50 ∧
    (read (read (advance (init 100 30) 20) 8).2 8).2.now = 80 ∧
    (read (read (read (advance (init 100 30) 20) 8).2 8).2 8).2.now = 100 ∧
    (read (read (read (read (advance (init 100 30) 20) 8).2 8).2 8).2 8).2.now = 100 := by decide
example : (read (read (advance (init 100 30) 20) 8).2 8).2.now ≤ max 20 100 :=
  C13_reads_bounded (s := advance (init 100 30) 20) ((Reach.refl _).step (.adv _ 20)) (by decide)
    (.cons (.read _ 8 (by decide)) (.cons (.read _ 8 (by decide)) (.nil _)))
    (by intro a ha; simp only [List.mem_cons, List.not_mem_nil, or_false] at ha
        rcases ha with h | h <;> exact ⟨_, _, h⟩)
example : (read (advance (init 100 30) 130) 8).2.now = (advance (init 100 30) 130).now :=
  (C13_after_deadline_immediate (s := advance (init 100 30) 130) ((Reach.refl _).step (.adv _ 130)) 8
    (by decide) (by decide)).1
/-- without a deadline watchdog (sender released) the bound is the receive timeout only -/
example : (read (dropResponse (advance (init 100 30) 90)) 8).2.now = 120 := by decide

end Atto
