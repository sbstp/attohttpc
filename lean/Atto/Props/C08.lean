/-
  Atto/Props/C08.lean — "requests go to the right peer and name the right resource".

  About every hop of the redirect loop `sendLoop` (so in particular the first hop of `send`):
  who is dialled, which request target is written, what the Host field is.
  `rqIsTunnel s url` = a proxy is selected for an `https` URL (the CONNECT branch, Props/C12).
  Helper lemmas: Lemmas/RqSend.lean, Lemmas/RqHeaders.lean, Lemmas/RqLex.lean, Lemmas/RqRadix.lean.

  Observation (not part of C08's statement, reported): for plain `http` through a proxy the model —
  like src/request/mod.rs:226-229 — sets Host to the PROXY's authority, not the origin's
  (`C08_host_plain_via_proxy`); RFC 9112 §3.2 wants the origin's.
-/
import Atto.Lemmas.RqSend
import Atto.Lemmas.RqHeaders
import Atto.Lemmas.RqLex
import Atto.Lemmas.RqRadix
namespace Atto

/-! ### example data -/
namespace C08
def origin : Url :=
  { scheme := str "http", user := str "bob", pass := some (str "pw"), host := str "example.com", hostKind := 0,
    port := some 8080, effPort := 8080, path := str "/a/b", query := some (str "x=1&y=2"),
    fragment := some (str "frag") }
def originTls : Url := { origin with scheme := str "https", port := none, effPort := 443 }
def proxyUrl : Url :=
  { scheme := str "http", user := str "pu", pass := some (str "pp"), host := str "proxy.local", hostKind := 0,
    port := some 3128, effPort := 3128, path := str "/", query := none, fragment := none }
def viaProxy : SendSettings :=
  { followRedirects := true, maxRedirections := 5, maxHeaders := 100,
    proxy := { httpProxy := some proxyUrl, httpsProxy := some proxyUrl, disabled := false, noProxy := [str "other.org"] } }
def direct : SendSettings := { viaProxy with proxy := { viaProxy.proxy with disabled := true } }
def req : Req :=
  { method := str "POST", methodM := .post,
    headers := [(str "host", str "stale.example"), (str "authorization", str "Bearer t"), (str "content-length", str "2")],
    body := { kind := .known 2, writes := [str "h", [], str "i"] }, bodyRewindable := true }
def hop : Hop := { script := [.data (str "HTTP/1.1 200 OK\r\ncontent-length: 0\r\n\r\n")], resolved := none }

theorem forUrl_proxy : viaProxy.proxy.forUrl origin = some proxyUrl := by decide +kernel
theorem forUrl_proxyTls : viaProxy.proxy.forUrl originTls = some proxyUrl := by decide +kernel
theorem forUrl_direct : direct.proxy.forUrl origin = none := by decide +kernel
end C08

/-! ### (f) the peer -/

/-- (f) Every hop dials the proxy selected for the hop's URL if there is one, else the URL's own
    host and effective port (with the URL's scheme deciding about TLS). -/
theorem C08_peer (s : SendSettings) (req : Req) (cap : Nat) (hop : Hop) (rest : List Hop) (url : Url)
    (n : Nat) (hdrs : Headers) (first : Bool) :
    ((sendLoop s req cap (hop :: rest) url n hdrs first).1.head?).map
        (fun o => (o.dialHost, o.dialPort, o.dialScheme)) =
      some (match s.proxy.forUrl url with
            | some p => (p.host, p.effPort, p.scheme)
            | none => (url.host, url.effPort, url.scheme)) := by
  obtain ⟨tail, f, h⟩ := Rd.sendLoop_cons s req cap hop rest url n hdrs first
  obtain ⟨h1, h2, h3⟩ := Rd.rd_obs_dial s req cap hop url hdrs first
  rw [h, List.head?_cons, Option.map_some, h1, h2, h3, Rd.rd_target]
  cases s.proxy.forUrl url <;> rfl

/-- (f) for `send`: the first connection. -/
theorem C08_peer_send (s : SendSettings) (req : Req) (cap : Nat) (url : Url) (hop : Hop) (rest : List Hop) :
    ((send s req cap url (hop :: rest)).1.head?).map (fun o => (o.dialHost, o.dialPort, o.dialScheme)) =
      some (match s.proxy.forUrl url with
            | some p => (p.host, p.effPort, p.scheme)
            | none => (url.host, url.effPort, url.scheme)) :=
  C08_peer s req cap hop rest url 0 req.headers true

/-- non-vacuity: through the proxy, and direct -/
example : ((send C08.viaProxy C08.req 8 C08.origin [C08.hop]).1.head?).map
    (fun o => (o.dialHost, o.dialPort, o.dialScheme)) = some (str "proxy.local", 3128, str "http") := by
  rw [C08_peer_send, C08.forUrl_proxy]; rfl
example : ((send C08.direct C08.req 8 C08.origin [C08.hop]).1.head?).map
    (fun o => (o.dialHost, o.dialPort, o.dialScheme)) = some (str "example.com", 8080, str "http") := by
  rw [C08_peer_send, C08.forUrl_direct]; rfl

/-! ### (g) the request target -/

/-- the second SP-separated token of the first line of what was written -/
def targetOf (w : Bytes) : Bytes := ((w.dropWhile (· != 32)).drop 1).takeWhile (· != 32)

theorem rq_targetOf_writeRequest (m : Bytes) (u : Url) (vp : Bool) (h : Headers) (b : BodyM)
    (hm : (32 : UInt8) ∉ m) (ht : (32 : UInt8) ∉ requestTarget u vp) :
    targetOf (writeRequest m u vp h b) = requestTarget u vp := by
  unfold targetOf writeRequest
  rw [rq_str_http11crlf]
  simp only [List.append_assoc, List.cons_append, List.nil_append]
  rw [rq_dropWhile_ne 32 m _ hm]
  simp only [List.drop_succ_cons, List.drop_zero]
  exact rq_takeWhile_ne 32 _ _ ht

/-- (g) A non-tunnel hop writes `method SP target SP HTTP/1.1 CRLF …` where the target is the
    absolute-form (scheme://authority path ?query) iff a proxy is selected and the URL's scheme is
    `http`, and the origin-form (path ?query) otherwise. -/
theorem C08_target (s : SendSettings) (req : Req) (cap : Nat) (hop : Hop) (rest : List Hop) (url : Url)
    (n : Nat) (hdrs : Headers) (first : Bool) (ht : rqIsTunnel s url = false) :
    ∃ o tail f, sendLoop s req cap (hop :: rest) url n hdrs first = (o :: tail, f) ∧
      (∃ after, o.wrote = req.method ++ [32] ++
          (if (s.proxy.forUrl url).isSome ∧ url.scheme = str "http" then url.absoluteForm else url.originForm)
          ++ str " HTTP/1.1\r\n" ++ after) ∧
      ((32 : UInt8) ∉ req.method → (32 : UInt8) ∉ url.absoluteForm → (32 : UInt8) ∉ url.originForm →
        targetOf o.wrote =
          if (s.proxy.forUrl url).isSome ∧ url.scheme = str "http" then url.absoluteForm else url.originForm) := by
  obtain ⟨tail, f, h⟩ := rq_sendLoop_plain s req cap hop rest url n hdrs first ht
  have hrt : requestTarget url (url.scheme == str "http" && (s.proxy.forUrl url).isSome) =
      if (s.proxy.forUrl url).isSome ∧ url.scheme = str "http" then url.absoluteForm else url.originForm := by
    unfold requestTarget
    by_cases h1 : url.scheme = str "http" <;> cases (s.proxy.forUrl url) <;> simp [h1]
  refine ⟨_, tail, f, h, ⟨writeHeaders (Rd.rd_hopHdrs s hdrs url) ++ writeBody (Rd.rd_body req first), ?_⟩, ?_⟩
  · simp only [Rd.rd_plainOut, Rd.rd_plainViaProxy, writeRequest, hrt, List.append_assoc]
  · intro hm ha ho
    simp only [Rd.rd_plainOut, Rd.rd_plainViaProxy]
    rw [rq_targetOf_writeRequest _ _ _ _ _ hm (by rw [hrt]; split <;> assumption), hrt]

/-- non-vacuity: absolute-form through the proxy (credentials and fragment of the URL absent) -/
example : ∃ o tail f, send C08.viaProxy C08.req 8 C08.origin [C08.hop] = (o :: tail, f) ∧
    targetOf o.wrote = str "http://example.com:8080/a/b?x=1&y=2" := by
  obtain ⟨o, tail, f, h, _, ht⟩ := C08_target C08.viaProxy C08.req 8 C08.hop [] C08.origin 0 C08.req.headers true
    (by decide +kernel)
  refine ⟨o, tail, f, h, ?_⟩
  rw [ht (by decide +kernel) (by decide +kernel) (by decide +kernel), C08.forUrl_proxy]
  simp only [str_data]
  decide +kernel
/-- origin-form when sent directly -/
example : ∃ o tail f, send C08.direct C08.req 8 C08.origin [C08.hop] = (o :: tail, f) ∧
    targetOf o.wrote = str "/a/b?x=1&y=2" := by
  obtain ⟨o, tail, f, h, _, ht⟩ := C08_target C08.direct C08.req 8 C08.hop [] C08.origin 0 C08.req.headers true
    (by decide +kernel)
  refine ⟨o, tail, f, h, ?_⟩
  rw [ht (by decide +kernel) (by decide +kernel) (by decide +kernel), C08.forUrl_direct]
  decide +kernel

/-- (g) Neither form depends on the URL's credentials or fragment: two URLs that differ only there
    have the same targets, so userinfo and fragment cannot appear in what is written. -/
theorem C08_no_secret (u : Url) (user : Bytes) (pass frag : Option Bytes) :
    ({ u with user := user, pass := pass, fragment := frag } : Url).absoluteForm = u.absoluteForm ∧
    ({ u with user := user, pass := pass, fragment := frag } : Url).originForm = u.originForm ∧
    ({ u with user := user, pass := pass, fragment := frag } : Url).authority = u.authority :=
  ⟨rfl, rfl, rfl⟩

example : ({ C08.origin with user := [], pass := none, fragment := none } : Url).absoluteForm =
    C08.origin.absoluteForm := (C08_no_secret C08.origin [] none none).1

/-- (g) A byte that is no digit and none of `:` `/` `?` appears in a target only if it appears in
    one of the components scheme, host, path, query: in particular `#` (35) and `@` (64). -/
theorem C08_no_foreign_byte (u : Url) (c : UInt8) (hd : rqIsDigit c = false) (hc : c ≠ 58 ∧ c ≠ 47 ∧ c ≠ 63)
    (hp : c ∉ u.path) (hq : ∀ q, u.query = some q → c ∉ q) :
    c ∉ u.originForm ∧ (c ∉ u.scheme → c ∉ u.host → c ∉ u.absoluteForm) := by
  have ho : c ∉ u.originForm := by
    unfold Url.originForm
    cases hqq : u.query with
    | none => simpa using hp
    | some q =>
      have := hq q hqq
      simp only [List.mem_append, List.mem_cons, List.not_mem_nil, or_false, not_or]
      exact ⟨⟨hp, hc.2.2⟩, this⟩
  refine ⟨ho, fun hs hh => ?_⟩
  have hau : c ∉ u.authority := by
    unfold Url.authority
    cases u.port with
    | none => simpa using hh
    | some p =>
      simp only [List.mem_append, List.mem_cons, List.not_mem_nil, or_false, not_or]
      refine ⟨⟨hh, hc.1⟩, fun hm => ?_⟩
      have := rq_natDigits_digit p c hm
      rw [hd] at this
      exact Bool.noConfusion this
  unfold Url.absoluteForm
  rw [rq_str_css]
  simp only [List.mem_append, List.mem_cons, List.not_mem_nil, or_false, not_or]
  exact ⟨⟨⟨hs, hc.1, hc.2.1, hc.2.1⟩, hau⟩, ho⟩

/-- `#` never appears if the components have none -/
theorem C08_no_hash (u : Url) (hp : (35 : UInt8) ∉ u.path) (hq : ∀ q, u.query = some q → (35 : UInt8) ∉ q) :
    (35 : UInt8) ∉ u.originForm ∧ ((35 : UInt8) ∉ u.scheme → (35 : UInt8) ∉ u.host → (35 : UInt8) ∉ u.absoluteForm) :=
  C08_no_foreign_byte u 35 (by decide) (by decide) hp hq

example : (35 : UInt8) ∉ C08.origin.absoluteForm :=
  (C08_no_hash C08.origin (by decide +kernel) (by decide +kernel)).2 (by decide +kernel) (by decide +kernel)
/-- `@` likewise -/
example : (64 : UInt8) ∉ C08.origin.absoluteForm :=
  (C08_no_foreign_byte C08.origin 64 (by decide) (by decide) (by decide +kernel) (by decide +kernel)).2
    (by decide +kernel) (by decide +kernel)

/-! ### (h) the Host field -/

/-- (h) `set_host` leaves exactly one Host field, whatever the map contained before (a caller's
    Host, the Host of the previous hop): the URL's authority. -/
theorem C08_host (h : Headers) (u : Url) : (setHost h u).getAll (str "host") = [u.authority] := by
  exact (rq_getAll_setHost h u _).trans (if_pos rfl)

/-- (h) `host:port` iff the URL has a non-default port, else the host alone (IPv6 literals are
    bracketed in `host`). -/
theorem C08_authority (u : Url) :
    (∃ p, u.port = some p ∧ u.authority = u.host ++ [58] ++ natDigits p) ∨
    (u.port = none ∧ u.authority = u.host) := by
  unfold Url.authority
  cases u.port with
  | none => exact .inr ⟨rfl, rfl⟩
  | some p => exact .inl ⟨p, rfl, rfl⟩

/-- (h) A directly sent request — and the request sent inside a tunnel — carries the header map
    `setHost hdrs url`: exactly one Host field, the URL's authority. -/
theorem C08_host_direct (s : SendSettings) (req : Req) (cap : Nat) (hop : Hop) (rest : List Hop) (url : Url)
    (n : Nat) (hdrs : Headers) (first : Bool) (hd : s.proxy.forUrl url = none) :
    ∃ tail f, sendLoop s req cap (hop :: rest) url n hdrs first =
        ({ dialScheme := url.scheme, dialHost := url.host, dialPort := url.effPort,
           wrote := writeRequest req.method url false (setHost hdrs url) (rqHopBody req first),
           tlsName := none } :: tail, f) ∧
      (setHost hdrs url).getAll (str "host") = [url.authority] := by
  have ht : rqIsTunnel s url = false := by simp [rqIsTunnel, hd]
  obtain ⟨tail, f, h⟩ := rq_sendLoop_plain s req cap hop rest url n hdrs first ht
  refine ⟨tail, f, ?_, C08_host hdrs url⟩
  rw [h]
  simp [Rd.rd_plainOut, Rd.rd_target, Rd.rd_hopHdrs, Rd.rd_plainViaProxy, Rd.rd_body, rqHopBody, hd]

/-- (h) the header map of a hop is `setHost hdrs url` unless it is plain http through a proxy -/
theorem C08_host_hop (s : SendSettings) (url : Url) (hdrs : Headers)
    (h : ¬ (url.scheme = str "http" ∧ (s.proxy.forUrl url).isSome)) :
    rqHopHeaders s url hdrs = setHost hdrs url := by
  rw [rqHopHeaders_eq, Rd.rd_hopHdrs_eq, Rd.rd_hostUrl_eq, if_neg (by simpa [Rd.rd_plainViaProxy] using h)]

/-- observation: plain http through a proxy names the proxy in Host -/
theorem C08_host_plain_via_proxy (s : SendSettings) (url p : Url) (hdrs : Headers)
    (hs : url.scheme = str "http") (hp : s.proxy.forUrl url = some p) :
    (rqHopHeaders s url hdrs).getAll (str "host") = [p.authority] := by
  rw [rqHopHeaders_eq, Rd.rd_hopHdrs_eq, C08_host]
  simp [Rd.rd_hostUrl, hp, hs]

/-- non-vacuity: the stale Host of the prepared headers is replaced; explicit port -/
example : ∃ tail f, send C08.direct C08.req 8 C08.origin [C08.hop] =
      ({ dialScheme := str "http", dialHost := str "example.com", dialPort := 8080,
         wrote := writeRequest (str "POST") C08.origin false (setHost C08.req.headers C08.origin) C08.req.body,
         tlsName := none } :: tail, f) ∧
    (setHost C08.req.headers C08.origin).getAll (str "host") = [str "example.com:8080"] := by
  obtain ⟨tail, f, h, hh⟩ := C08_host_direct C08.direct C08.req 8 C08.hop [] C08.origin 0 C08.req.headers true
    C08.forUrl_direct
  refine ⟨tail, f, h, ?_⟩
  rw [hh]
  decide +kernel
example : C08.originTls.authority = str "example.com" := by decide +kernel
example : (rqHopHeaders C08.viaProxy C08.origin C08.req.headers).getAll (str "host") = [str "proxy.local:3128"] := by
  rw [C08_host_plain_via_proxy _ _ _ _ (by decide +kernel) C08.forUrl_proxy]; decide +kernel

end Atto
