/-
  Atto/Props/C01.lean — "Response body bytes equal the payload the server framed".
  Stated on the real pipeline model: `parseResponse` over an arbitrary well-formed scripted
  transport `t` (every segmentation: `t` is constrained only through `flatT t`), any BufReader
  capacity `cap > 0`, any chunk-buffer bound `maxBuf > 0`, any caller read-size schedule `ns`.
-/
import Atto.Lemmas.BufViewChunked
import Atto.Lemmas.ExampleFacts
namespace Atto

local notation "L" => Consts.maxLineLen
local notation "CL" => Consts.chunkSizeLineLimit

/-- (1) chunked framing: only `Ok` events, the bytes handed out are a prefix of the concatenated
    chunk data, and a read with a non-empty buffer returns `Ok(0)` exactly when all of it was
    delivered. `trail` is arbitrary garbage after the frame. -/
theorem C01_chunked (h : HeadS) (cs : List ChunkS) (last : LastS) (trail : List Item)
    (t : Transport) (cap maxBuf mh : Nat) (m : Method) (ns : List Nat)
    (hwf : wfT t) (hcap : 0 < cap) (hmb : 0 < maxBuf) (hh : h.WF L)
    (hcs : ∀ c ∈ cs, c.WF CL) (hl : last.WF CL)
    (hmh : h.fields.length ≤ mh) (hms : h.fields.length ≤ Headers.maxSize)
    (hnb : bodyless m h.code = false) (hch : isChunked h.seen = true)
    (hflat : flatT t = bytesI (h.render ++ encChunks cs ++ last.enc) ++ trail) :
    ∃ resp, parseResponse m mh cap t = .ok resp ∧ resp.status = h.code ∧
      resp.headers = h.seen.remove nameTE ∧
      let evs := (reads maxBuf ns resp.body).1
      (∀ e ∈ evs, e.isOk) ∧ deliveredEv evs <+: payloadOf cs ∧
      (∀ i (hi : i < ns.length), 0 < ns[i] → evs[i]? = some (.ok []) →
          deliveredEv (evs.take i) = payloadOf cs) ∧
      (∀ i (hi : i < ns.length), 0 < ns[i] → deliveredEv (evs.take i) = payloadOf cs →
          evs[i]? = some (.ok [])) := by
  obtain ⟨r1, hok, hfl, hp⟩ := parseResponse_framed h hh _ trail t cap mh hwf hcap hmh hms
    (by rw [hflat, List.append_assoc]) (chooseFraming_chunked hnb hch)
  obtain ⟨h1, h2, h3, h4, _⟩ := clean_run (chunked_clean_step last hl trail maxBuf hmb) ns
    (chClean_fresh cs hcs last trail r1 hok hfl)
  exact ⟨_, hp, rfl, rfl, h1, h2, h3, h4⟩

/-- non-vacuity: a head with `Transfer-Encoding: chunked`, two chunks (one with an extension and a
    leading zero), a 4-way segmentation, capacity 8, chunk buffer 4, trailing garbage -/
example := C01_chunked Ex.headTE Ex.chunks Ex.last Ex.afterFrame
  Ex.chunkedT 8 4 100 .get
  Ex.readSizes
  (Ex.wfT_seg_append _ _ (Ex.long (Ex.long Ex.headTE_long)) (by decide)) (by decide) (by decide)
  Ex.headTE_wf Ex.chunks_wf Ex.last_wf (by decide) (by decide) rfl Ex.headTE_chunked
  (Ex.flatT_seg_append _ _)

/-- non-vacuity, with a trailer section: the same, but the last-chunk (`00;q`) is followed by two
    trailer field lines (`Expires: never`, `X-Sum: 1`) before the final empty line; the payload is the
    same and the garbage behind the frame is not touched -/
example := C01_chunked Ex.headTE Ex.chunks Ex.lastT Ex.afterFrame
  Ex.chunkedTrailersT 8 4 100 .get
  Ex.readSizes
  (Ex.wfT_seg_append _ _ (Ex.long (Ex.long Ex.headTE_long)) (by decide)) (by decide) (by decide)
  Ex.headTE_wf Ex.chunks_wf Ex.lastT_wf (by decide) (by decide) rfl Ex.headTE_chunked
  (Ex.flatT_seg_append _ _)

/-- (2) `Content-Length` framing: only `Ok` events, the bytes handed out are a prefix of the
    `Content-Length` octets `body` (nothing from `trail`, the bytes after the frame), a read with a
    non-empty buffer returns `Ok(0)` exactly when all of `body` was delivered, and returns a non-empty
    piece before that. -/
theorem C01_length (h : HeadS) (body : Bytes) (trail : List Item)
    (t : Transport) (cap maxBuf mh : Nat) (m : Method) (ns : List Nat)
    (hwf : wfT t) (hcap : 0 < cap) (hh : h.WF L)
    (hmh : h.fields.length ≤ mh) (hms : h.fields.length ≤ Headers.maxSize)
    (hnb : bodyless m h.code = false) (hch : isChunked h.seen = false)
    (hcl : isContentLength h.seen = .ok (some body.length))
    (hflat : flatT t = bytesI (h.render ++ body) ++ trail) :
    ∃ resp, parseResponse m mh cap t = .ok resp ∧ resp.status = h.code ∧
      resp.headers = h.seen.remove nameTE ∧
      let evs := (reads maxBuf ns resp.body).1
      (∀ e ∈ evs, e.isOk) ∧ deliveredEv evs <+: body ∧
      (∀ i (hi : i < ns.length), 0 < ns[i] → evs[i]? = some (.ok []) →
          deliveredEv (evs.take i) = body) ∧
      (∀ i (hi : i < ns.length), 0 < ns[i] → deliveredEv (evs.take i) = body →
          evs[i]? = some (.ok [])) ∧
      (∀ i (hi : i < ns.length), 0 < ns[i] → (deliveredEv (evs.take i)).length < body.length →
          ∃ bs, evs[i]? = some (.ok bs) ∧ bs ≠ []) := by
  obtain ⟨r1, hok, hfl, hp⟩ := parseResponse_framed h hh body trail t cap mh hwf hcap hmh hms hflat
    (chooseFraming_length hnb hch hcl)
  refine ⟨_, hp, rfl, rfl, ?_⟩
  exact clean_run (clean_step maxBuf _ _ (.inl rfl)) ns (Exact.complete_length hok hfl)

/-- non-vacuity: `Content-Length: 11`, body `hello world`, then garbage and a stall -/
example := C01_length Ex.headCL Ex.body Ex.afterFrame
  Ex.lengthT 8 4 100 .get
  Ex.readSizes
  (Ex.wfT_seg_append _ _ (Ex.long Ex.headCL_long) (by decide)) (by decide) Ex.headCL_wf (by decide)
  (by decide) rfl Ex.headCL_chunked Ex.headCL_cl_body (Ex.flatT_seg_append _ _)

/-- (3) close-delimited framing (no `Transfer-Encoding: chunked`, no `Content-Length`): the payload
    is everything up to EOF. -/
theorem C01_close (h : HeadS) (body : Bytes)
    (t : Transport) (cap maxBuf mh : Nat) (m : Method) (ns : List Nat)
    (hwf : wfT t) (hcap : 0 < cap) (hh : h.WF L)
    (hmh : h.fields.length ≤ mh) (hms : h.fields.length ≤ Headers.maxSize)
    (hnb : bodyless m h.code = false) (hch : isChunked h.seen = false)
    (hcl : isContentLength h.seen = .ok none)
    (hflat : flatT t = bytesI (h.render ++ body)) :
    ∃ resp, parseResponse m mh cap t = .ok resp ∧ resp.status = h.code ∧
      resp.headers = h.seen.remove nameTE ∧
      let evs := (reads maxBuf ns resp.body).1
      (∀ e ∈ evs, e.isOk) ∧ deliveredEv evs <+: body ∧
      (∀ i (hi : i < ns.length), 0 < ns[i] → evs[i]? = some (.ok []) →
          deliveredEv (evs.take i) = body) ∧
      (∀ i (hi : i < ns.length), 0 < ns[i] → deliveredEv (evs.take i) = body →
          evs[i]? = some (.ok [])) ∧
      (∀ i (hi : i < ns.length), 0 < ns[i] → (deliveredEv (evs.take i)).length < body.length →
          ∃ bs, evs[i]? = some (.ok bs) ∧ bs ≠ []) := by
  obtain ⟨r1, hok, hfl, hp⟩ := parseResponse_framed_end h hh body t cap mh hwf hcap hmh hms hflat
    (chooseFraming_close hnb hch hcl)
  refine ⟨_, hp, rfl, rfl, ?_⟩
  exact clean_run (clean_step maxBuf _ _ (.inr ⟨rfl, rfl⟩)) ns (Exact.complete_close hok hfl)

/-- non-vacuity: an HTTP/1.0 404 without framing headers, body up to EOF -/
example := C01_close Ex.headClose Ex.body
  Ex.closeT 8 4 100 .get
  Ex.readSizes
  (Ex.wfT_seg _ Ex.headClose_body_long) (by decide) Ex.headClose_wf (by decide) (by decide) rfl
  Ex.headClose_chunked Ex.headClose_cl (Ex.flatT_seg _)

/-- (4) segmentation independence: two transports (and BufReader capacities) that carry the same
    flat stream — ANY stream, well-formed response or not — give the same status, headers and
    decoder selection (or the same error / stall), and for chunked framing the same list of caller
    events for every read-size schedule. -/
theorem C01_seg_indep (t1 t2 : Transport) (cap1 cap2 mh maxBuf : Nat) (m : Method) (ns : List Nat)
    (hw1 : wfT t1) (hw2 : wfT t2) (hc1 : 0 < cap1) (hc2 : 0 < cap2)
    (hf : flatT t1 = flatT t2) :
    (parseResponse m mh cap1 t1).map (fun r => (r.status, r.headers, r.coding)) =
      (parseResponse m mh cap2 t2).map (fun r => (r.status, r.headers, r.coding)) ∧
    ∀ r1 r2 c1 c2, parseResponse m mh cap1 t1 = .ok r1 → parseResponse m mh cap2 t2 = .ok r2 →
      r1.body = .chunked c1 → r2.body = .chunked c2 →
      (reads maxBuf ns r1.body).1 = (reads maxBuf ns r2.body).1 := by
  obtain ⟨r1, hok1, hfl1, hp1⟩ := parseResponse_flat t1 cap1 mh hw1 hc1
  obtain ⟨r2, hok2, hfl2, hp2⟩ := parseResponse_flat t2 cap2 mh hw2 hc2
  rw [hf] at hfl1 hp1
  have hfl : r1.flat = r2.flat := hfl1.trans hfl2.symm
  rw [hp1 m, hp2 m]
  rcases (parseResponseHead flatSrc (flatT t2) mh).1 with ⟨status, hs⟩ | e | _ | _
  · simp only
    cases hcf : chooseFraming m status hs with
    | error e => simp
    | ok f =>
      simp only [RR.map_ok, true_and]
      intro ra rb ca cb ha hb hca hcb
      cases ha; cases hb
      cases f with
      | chunked =>
        simp only [Body.new]
        rw [reads_chunked_flat r1 hok1, reads_chunked_flat r2 hok2, hfl]
      | length n => simp [Body.new] at hca
      | close => simp [Body.new] at hca
  all_goals simp

/-- non-vacuity: the same wire bytes in four segments / capacity 8 and in one segment / capacity 3 -/
example := C01_seg_indep
  (Ex.seg (Ex.headTE.render ++ encChunks Ex.chunks ++ Ex.last.enc))
  [.data (Ex.headTE.render ++ encChunks Ex.chunks ++ Ex.last.enc)] 8 3 100 4 .get [0, 3, 100, 1]
  (Ex.wfT_seg _ (Ex.long (Ex.long Ex.headTE_long)))
  ⟨List.ne_nil_of_length_pos (Nat.lt_trans (by decide) (Ex.long (Ex.long Ex.headTE_long))), trivial⟩
  (by decide) (by decide) ((Ex.flatT_seg _).trans (List.append_nil _).symm)

/-- (5) a read with an empty caller buffer never returns bytes, on any body in any state. -/
theorem C01_zero_read (b : Body) (maxBuf : Nat) (bs : Bytes)
    (h : (b.read maxBuf 0).1 = .ok bs) : bs = [] := by
  -- a `BufReader::read` returns at most as many bytes as the caller's buffer holds
  have bufr : ∀ (r : BufR) bs, (r.read 0).1 = .ok bs → bs = [] := fun r bs h =>
    List.eq_nil_of_length_eq_zero (Nat.le_zero.1 (read_le r 0 bs h))
  cases b with
  | chunked c =>
    simp only [Body.read, Chunked.read] at h
    split at h <;> simp at h
    rw [← h]
  | close r =>
    rw [close_read_eq] at h
    exact bufr r bs h
  | length r lim =>
    simp only [Body.read] at h
    split at h
    · simpa using h.symm
    · simp only [Nat.zero_min] at h
      split at h
      · rename_i bs' r' hrd
        have hb : bs' = [] := bufr r bs' (by rw [hrd])
        subst hb
        simp at h
        rw [← h]
      all_goals simp at h

/-- non-vacuity: such a read does return `Ok` on a body with buffered data -/
example : ((Body.length { buf := [1, 2], cap := 8, inner := [] } 2).read 4 0).1 = .ok [] := rfl
