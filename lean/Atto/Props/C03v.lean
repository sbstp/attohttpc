/-
  Atto/Props/C03v.lean — property C03, the part that sits in the HEAD parser: a field whose name is
  a usable header name but whose value is not a valid header value is REFUSED (`HeaderValue`), it is
  never dropped like a field with an unusable name. Otherwise `Content-Length: 5<DEL>` would turn a
  length-delimited response into a close-delimited one (and `Transfer-Encoding: chunked<DEL>` a
  chunked one into a close-delimited one): the framing of C03 would be chosen on a head in which the
  framing field is silently missing.
    (u) one field line;
    (v) the head / the response: after a well-formed status line and well-formed field lines, such a
        line makes `parse_response` fail with `HeaderValue`, whatever follows, for every
        segmentation of the stream and every BufReader capacity;
    (w) what "dropped" would have meant for the example.
  Helper lemmas: Atto/Lemmas/HeadFlat.lean (`head_fields_then_bad`), Atto/Lemmas/Pipeline.lean.
-/
import Atto.Lemmas.Pipeline
import Atto.Lemmas.ExampleFacts
import Atto.Lemmas.Str
import Atto.Props.C04
namespace Atto

/-! ### (u) one field line -/

/-- (u) usable name, unusable value: refused, not skipped. `line.take col` is what precedes the first
    colon, `line.drop (col + 1)` what follows it. -/
theorem C03_field_value_refused (line : Bytes) (col : Nat) (n : Bytes)
    (hcol : line.idxOf? 58 = some col)
    (hname : headerNameFromBytes (trimByte 32 (line.take col)) = some n)
    (hval : headerValueValid (trimByte 32 (replaceByte 10 32 (line.drop (col + 1)))) = false) :
    parseFieldLine line = .bad .headerValue := by
  unfold parseFieldLine
  simp only [hcol, hname, hval]
  rfl

/-- the three outcomes of a line with a colon are told apart by name and value only: the value is
    looked at only when the name is usable, and then it decides between "kept" and "refused" -/
theorem C03_field_line_cases (line : Bytes) (col : Nat) (hcol : line.idxOf? 58 = some col) :
    (headerNameFromBytes (trimByte 32 (line.take col)) = none ∧ parseFieldLine line = .skip) ∨
    (∃ n, headerNameFromBytes (trimByte 32 (line.take col)) = some n ∧
      headerValueValid (trimByte 32 (replaceByte 10 32 (line.drop (col + 1)))) = true ∧
      parseFieldLine line = .field n (trimByte 32 (replaceByte 10 32 (line.drop (col + 1))))) ∨
    (∃ n, headerNameFromBytes (trimByte 32 (line.take col)) = some n ∧
      headerValueValid (trimByte 32 (replaceByte 10 32 (line.drop (col + 1)))) = false ∧
      parseFieldLine line = .bad .headerValue) := by
  rcases hn : headerNameFromBytes (trimByte 32 (line.take col)) with _ | n
  · exact Or.inl ⟨rfl, by simp [parseFieldLine, hcol, hn]⟩
  · rcases hv : headerValueValid (trimByte 32 (replaceByte 10 32 (line.drop (col + 1)))) with _ | _
    · exact Or.inr (Or.inr ⟨n, rfl, rfl, by simp [parseFieldLine, hcol, hn, hv]⟩)
    · exact Or.inr (Or.inl ⟨n, rfl, rfl, by simp [parseFieldLine, hcol, hn, hv]⟩)

namespace C03v
deriving instance DecidableEq for RR
deriving instance DecidableEq for FieldRes
end C03v

/-- `Content-Length: 5<DEL>` -/
def C03v.exBad : Bytes := str "Content-Length: 5" ++ [127]

theorem C03v.exBad_col : C03v.exBad.idxOf? 58 = some 14 := by decide +kernel
theorem C03v.exBad_name :
    headerNameFromBytes (trimByte 32 (C03v.exBad.take 14)) = some (str "content-length") := by
  decide +kernel
theorem C03v.exBad_value :
    headerValueValid (trimByte 32 (replaceByte 10 32 (C03v.exBad.drop (14 + 1)))) = false := by
  decide +kernel

example : C03v.exBad.idxOf? 58 = some 14 ∧
    headerNameFromBytes (trimByte 32 (C03v.exBad.take 14)) = some (str "content-length") ∧
    headerValueValid (trimByte 32 (replaceByte 10 32 (C03v.exBad.drop (14 + 1)))) = false :=
  ⟨C03v.exBad_col, C03v.exBad_name, C03v.exBad_value⟩

example : parseFieldLine C03v.exBad = .bad .headerValue :=
  C03_field_value_refused C03v.exBad 14 (str "content-length") C03v.exBad_col C03v.exBad_name
    C03v.exBad_value

/-- a bare CR, a NUL, an inner LF that ends up next to a control byte -/
example : parseFieldLine (str "Transfer-Encoding: chun\rked") = .bad .headerValue ∧
    parseFieldLine (str "X: a\x00b") = .bad .headerValue ∧
    parseFieldLine (str "X: a\n\x01") = .bad .headerValue := by decide +kernel

/-! ### (v) the head and the response -/

/-- the flat-stream statement behind the two (v) theorems below (any source-independent reader sees the
    same) -/
theorem C03_bad_value_head_flat (h : HeadS) (bad : Bytes) (col : Nat) (n : Bytes) (rest : List Item)
    (mh : Nat) (hwf : h.WF Consts.maxLineLen)
    (hmh : h.fields.length < mh) (hcap : h.fields.length ≤ Headers.maxSize)
    (hcrlf : ¬ [13, 10] <:+: bad ++ [13]) (hlen : bad.length + 2 ≤ Consts.maxLineLen)
    (hcol : bad.idxOf? 58 = some col)
    (hname : headerNameFromBytes (trimByte 32 (bad.take col)) = some n)
    (hval : headerValueValid (trimByte 32 (replaceByte 10 32 (bad.drop (col + 1)))) = false) :
    parseResponseHead flatSrc
      (bytesI (h.statusLine ++ [13, 10] ++ renderFields h.fields ++ bad ++ [13, 10]) ++ rest) mh =
        (.err .headerValue, rest) := by
  have hne : bad ≠ [] := by intro e; rw [e] at hcol; cases hcol
  exact head_fields_then_bad h hwf bad .headerValue rest mh hmh hcap hcrlf hlen hne
    (C03_field_value_refused bad col n hcol hname hval)

/-- (v) The head parser through the BufReader model: after a well-formed status line and the
    well-formed field lines `h.fields`, ONE field line `bad` with a usable name and an unusable value
    makes it stop with `HeaderValue`, right after that line (`rest`, whatever it is, is not consumed),
    for every segmentation `t` of the stream and every capacity.
    `hcrlf` says that the CRLF which ends `bad` is the first one (`read_line_strict` keeps bare LFs);
    `10 ∉ bad` or `13 ∉ bad` suffice (`first_crlf_of_no_lf`, `first_crlf_of_no_cr`).
    `hmh`: the `max_headers` limit is not what fails; `hcap`: `HeaderMap`'s own capacity neither. -/
theorem C03_bad_value_head (h : HeadS) (bad : Bytes) (col : Nat) (n : Bytes) (rest : List Item)
    (t : Transport) (cap mh : Nat)
    (hw : wfT t) (hc : 0 < cap) (hwf : h.WF Consts.maxLineLen)
    (hmh : h.fields.length < mh) (hcap : h.fields.length ≤ Headers.maxSize)
    (hcrlf : ¬ [13, 10] <:+: bad ++ [13]) (hlen : bad.length + 2 ≤ Consts.maxLineLen)
    (hcol : bad.idxOf? 58 = some col)
    (hname : headerNameFromBytes (trimByte 32 (bad.take col)) = some n)
    (hval : headerValueValid (trimByte 32 (replaceByte 10 32 (bad.drop (col + 1)))) = false)
    (hflat : flatT t =
      bytesI (h.statusLine ++ [13, 10] ++ renderFields h.fields ++ bad ++ [13, 10]) ++ rest) :
    ∃ r', parseResponseHead bufSrc { buf := [], cap := cap, inner := t } mh = (.err .headerValue, r') ∧
      r'.flat = rest ∧ r'.Ok := by
  exact head_of_flat t cap mh hw hc (hflat ▸ C03_bad_value_head_flat h bad col n rest mh hwf hmh hcap
    hcrlf hlen hcol hname hval)

/-- (v) `parse_response`: the response is refused with `HeaderValue` — for every method, so also
    where the framing would not even look at the field (HEAD, 1xx, 204, 304); in particular it is
    never framed as if the field were absent. -/
theorem C03_bad_value_response (m : Method) (h : HeadS) (bad : Bytes) (col : Nat) (n : Bytes)
    (rest : List Item) (t : Transport) (cap mh : Nat)
    (hw : wfT t) (hc : 0 < cap) (hwf : h.WF Consts.maxLineLen)
    (hmh : h.fields.length < mh) (hcap : h.fields.length ≤ Headers.maxSize)
    (hcrlf : ¬ [13, 10] <:+: bad ++ [13]) (hlen : bad.length + 2 ≤ Consts.maxLineLen)
    (hcol : bad.idxOf? 58 = some col)
    (hname : headerNameFromBytes (trimByte 32 (bad.take col)) = some n)
    (hval : headerValueValid (trimByte 32 (replaceByte 10 32 (bad.drop (col + 1)))) = false)
    (hflat : flatT t =
      bytesI (h.statusLine ++ [13, 10] ++ renderFields h.fields ++ bad ++ [13, 10]) ++ rest) :
    parseResponse m mh cap t = .err .headerValue := by
  obtain ⟨r1, -, -, hp⟩ := parseResponse_flat t cap mh hw hc
  rw [hp, hflat, C03_bad_value_head_flat h bad col n rest mh hwf hmh hcap hcrlf hlen hcol hname hval]

/-- `hcrlf` from the hypotheses under which field lines are usually stated -/
theorem C03_first_crlf_of_no_lf (bad : Bytes) (h : (10 : UInt8) ∉ bad) :
    ¬ [13, 10] <:+: bad ++ [13] := first_crlf_of_no_lf bad h
theorem C03_first_crlf_of_no_cr (bad : Bytes) (h : (13 : UInt8) ∉ bad) :
    ¬ [13, 10] <:+: bad ++ [13] := first_crlf_of_no_cr bad h

/-! ### non-vacuity: `HTTP/1.1 200 OK\r\nX-A: b\r\nContent-Length: 5<DEL>\r\n\r\nhelloEXTRA` -/

/-- status line and the well-formed field `X-A: b` -/
def C03v.exHead : HeadS :=
  { version := str "HTTP/1.1", sp1 := 1, code := 200, reason := str "OK",
    fields := [⟨str "X-A", 1, str "b", 0⟩] }

/-- what follows the refused line: the blank line, five body bytes, five more -/
def C03v.exRest : List Item := bytesI (str "\r\nhelloEXTRA")

def C03v.exWire : Bytes :=
  str "HTTP/1.1 200 OK\r\nX-A: b\r\nContent-Length: 5" ++ [127] ++ str "\r\n\r\nhelloEXTRA"

/-- the wire bytes in four segments (7, 30, 1, 19 bytes): the refused line is cut twice -/
def C03v.exT : Transport := Ex.seg C03v.exWire

example : C03v.exT = [.data (str "HTTP/1."), .data (str "1 200 OK\r\nX-A: b\r\nContent-Leng"),
    .data (str "t"), .data (str "h: 5" ++ [127] ++ str "\r\n\r\nhelloEXTRA")] := by
  simp only [C03v.exT, C03v.exWire, Ex.seg, str_data]
  decide +kernel

theorem C03v.exHead_wf : C03v.exHead.WF Consts.maxLineLen := by decide +kernel
theorem C03v.exBad_crlf : ¬ [13, 10] <:+: C03v.exBad ++ [13] :=
  first_crlf_of_no_lf _ (by decide +kernel)
theorem C03v.exBad_len : C03v.exBad.length + 2 ≤ Consts.maxLineLen := by decide +kernel
theorem C03v.exT_wf : wfT C03v.exT := Ex.wfT_seg _ (by simp only [C03v.exWire, str_data]; decide +kernel)
/-- the wire bytes are the rendered status line and field, the refused line, and what follows -/
theorem C03v.exT_flat :
    flatT C03v.exT = bytesI (C03v.exHead.statusLine ++ [13, 10] ++ renderFields C03v.exHead.fields ++
      C03v.exBad ++ [13, 10]) ++ C03v.exRest := by
  have e : C03v.exWire = C03v.exHead.statusLine ++ [13, 10] ++ renderFields C03v.exHead.fields ++
      C03v.exBad ++ [13, 10] ++ str "\r\nhelloEXTRA" := by
    simp only [C03v.exWire, C03v.exHead, C03v.exBad, str_data]
    decide +kernel
  rw [C03v.exT, Ex.flatT_seg, e, bytesI_append, C03v.exRest]

example : wfT C03v.exT ∧ 0 < 8 ∧ C03v.exHead.WF Consts.maxLineLen ∧
    C03v.exHead.fields.length < 100 ∧ C03v.exHead.fields.length ≤ Headers.maxSize ∧
    ¬ [13, 10] <:+: C03v.exBad ++ [13] ∧ C03v.exBad.length + 2 ≤ Consts.maxLineLen ∧
    flatT C03v.exT = bytesI (C03v.exHead.statusLine ++ [13, 10] ++ renderFields C03v.exHead.fields ++
      C03v.exBad ++ [13, 10]) ++ C03v.exRest :=
  ⟨C03v.exT_wf, by decide, C03v.exHead_wf, by decide, by decide, C03v.exBad_crlf, C03v.exBad_len,
    C03v.exT_flat⟩

/-- the theorem on the example: every method, capacity 8, `max_headers = 100` -/
example (m : Method) : parseResponse m 100 8 C03v.exT = .err .headerValue :=
  C03_bad_value_response m C03v.exHead C03v.exBad 14 (str "content-length") C03v.exRest C03v.exT 8 100
    C03v.exT_wf (by decide) C03v.exHead_wf (by decide) (by decide) C03v.exBad_crlf C03v.exBad_len
    C03v.exBad_col C03v.exBad_name C03v.exBad_value C03v.exT_flat

/-- the same by evaluation of the model, in one piece and byte-sized capacity -/
example : (parseResponse .get 100 1 [.data C03v.exWire]).map (·.status) = .err .headerValue := by
  simp only [C03v.exWire, str_data]
  decide +kernel

/-- `max_headers = 1` is already the limit that fails (`hmh` is needed): `Header`, not `HeaderValue` -/
example : (parseResponse .get 1 8 C03v.exT).map (·.status) = .err .header := by
  simp only [C03v.exT, C03v.exWire, str_data]
  decide +kernel

/-! ### (w) what dropping the field would have meant -/

/-- the head a parser that DROPS the refused line would report: `X-A: b` only — close-delimited,
    the caller would be handed `helloEXTRA…` until the peer closes … -/
example : chooseFraming .get C03v.exHead.code C03v.exHead.seen = .ok .close := by
  decide +kernel

/-- … whereas the same response with a clean `Content-Length: 5` is length-delimited (`hello`). -/
example : ∃ resp r', parseResponse .get 100 8
      (Ex.seg (str "HTTP/1.1 200 OK\r\nX-A: b\r\nContent-Length: 5\r\n\r\nhelloEXTRA")) = .ok resp ∧
    resp.body = Body.new (.length 5) r' ∧ r'.flat = bytesI (str "helloEXTRA") := by
  obtain ⟨resp, h1, _, _, _, _, _, r', h2, h3, _⟩ := C04_response .get
    { C03v.exHead with fields := C03v.exHead.fields ++ [⟨str "Content-Length", 1, str "5", 0⟩] }
    (bytesI (str "helloEXTRA"))
    (Ex.seg (str "HTTP/1.1 200 OK\r\nX-A: b\r\nContent-Length: 5\r\n\r\nhelloEXTRA")) 8 100 (.length 5)
    (Ex.wfT_seg _ (by simp only [str_data]; decide +kernel)) (by decide) (by decide +kernel) (by decide)
    (by decide)
    (by rw [Ex.flatT_seg, ← bytesI_append]; simp only [HeadS.render, C03v.exHead, str_data]; decide +kernel)
    (by decide +kernel)
  exact ⟨resp, r', h1, h2, h3⟩

end Atto
