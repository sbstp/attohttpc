/-
  Atto/Props/C09.lean — property C09: "redirect following is bounded, selective and ends where the
  server pointed".  Everything is about `send s req cap url hops` / `sendLoop` for ARBITRARY `hops`
  (each hop's script is an arbitrary scripted transport and `resolved` an arbitrary resolution
  result, so every chain, graph or cycle of responses is an instance).  No assumption on the proxy
  settings: the statements that look at a response exclude only the hop on which the CONNECT-tunnel
  branch is taken (`rd_tunnels s u = true`: an https URL for which a proxy applies), where the model
  stops at the TLS handshake.
    (a) at most `max_redirections + 1` requests;
    (b) a followed status on the request number `max_redirections + 1`: `TooManyRedirections`;
    (c) following disabled: exactly one request, the 3xx response is returned;
    (d) only 301, 302, 303, 307, 308 are followed;
    (e) a followed status without `Location`, or with one that does not resolve, is an error;
    (f) hop i+1 goes to the URL that hop i's `Location` resolved to against hop i's URL, and the
        final response carries the URL of the last hop.
  Helper lemmas: Atto/Lemmas/Redirect.lean; example data: Atto/Lemmas/RedirectExamples.lean.
-/
import Atto.Gen.Consts
import Atto.Lemmas.Redirect
import Atto.Lemmas.RedirectExamples
namespace Atto
open Atto.Rd Atto.RdEx

/-! ### (a) bounded -/

/-- The loop invariant: with `n` redirections already followed, at most `max - n + 1` further
    requests are made (and never more than there are connections). -/
theorem C09_bound_loop (s : SendSettings) (req : Req) (cap : Nat) (hops : List Hop) (url : Url)
    (n : Nat) (hdrs : Headers) (first : Bool) :
    (sendLoop s req cap hops url n hdrs first).1.length ≤ s.maxRedirections - n + 1 ∧
    (sendLoop s req cap hops url n hdrs first).1.length ≤ hops.length := by
  rw [rd_outs_length, rd_urls_eq]
  exact (hopUrls_length_le (fun _ _ _ _ h => (rd_step_follow_inv h).2.1) hops url n).symm

theorem C09_bound (s : SendSettings) (req : Req) (cap : Nat) (url : Url) (hops : List Hop) :
    (send s req cap url hops).1.length ≤ s.maxRedirections + 1 :=
  (C09_bound_loop s req cap hops url 0 req.headers true).1

/-- 40 connections of an endless a ⇄ b cycle, limit 5: six requests, then `TooManyRedirections`. -/
example : (send (rx_settings true 5) rx_req 64 rx_a (rx_cycle 20)).1.length ≤ 5 + 1 :=
  C09_bound _ _ _ _ _
example : (send (rx_settings true 5) rx_req 64 rx_a (rx_cycle 20)).1.length = 6 ∧
    (send (rx_settings true 5) rx_req 64 rx_a (rx_cycle 20)).2 = .tooManyRedirections := by
  decide +kernel

/-! ### (b) the limit -/

theorem C09_exceed (s : SendSettings) (req : Req) (cap n : Nat) (url : Url) (hop : Hop) (resp : Resp) :
    n + 1 > s.maxRedirections → s.followRedirects = true →
    parseResponse req.methodM s.maxHeaders cap hop.script = .ok resp →
    isRedirectStatus resp.status = true →
    exchange s req cap n url hop = .final .tooManyRedirections := by
  intro hn hf hp hr; simp [exchange, hp, hf, hr, hn]

/-- Limit 0, first response is a 302. -/
example : exchange (rx_settings true 0) rx_req 64 0 rx_a
    { script := rx_redirect "302 Found" "http://b/2", resolved := some rx_b }
      = .final .tooManyRedirections := by
  obtain ⟨resp, hp, hst, _⟩ := rx_parse_302
  exact C09_exceed _ _ _ _ _ _ resp (by decide) rfl hp (by rw [hst]; decide)

/-- Lifted to the loop: the request is still made, it is the last one, the outcome is the error. -/
theorem C09_exceed_loop (s : SendSettings) (req : Req) (cap n : Nat) (url : Url) (hop : Hop)
    (rest : List Hop) (hdrs : Headers) (first : Bool) (resp : Resp) :
    rd_tunnels s url = false →
    n + 1 > s.maxRedirections → s.followRedirects = true →
    parseResponse req.methodM s.maxHeaders cap hop.script = .ok resp →
    isRedirectStatus resp.status = true →
    sendLoop s req cap (hop :: rest) url n hdrs first =
      ([rd_plainOut s req url hdrs first], .tooManyRedirections) :=
  fun ht hn hf hp hr => rd_sendLoop_final ht (C09_exceed s req cap n url hop resp hn hf hp hr)

/-- Lifted to `send`: if the hop with index `max_redirections` is reached (at URL `u`) and answers
    with a followed status, the outcome is `TooManyRedirections` after exactly `max + 1` requests. -/
theorem C09_exceed_send (s : SendSettings) (req : Req) (cap : Nat) (url : Url) (hops : List Hop)
    (u : Url) (hop : Hop) (resp : Resp) :
    (urlsVisited s req cap url hops)[s.maxRedirections]? = some u →
    hops[s.maxRedirections]? = some hop → rd_tunnels s u = false →
    s.followRedirects = true →
    parseResponse req.methodM s.maxHeaders cap hop.script = .ok resp →
    isRedirectStatus resp.status = true →
    (send s req cap url hops).2 = .tooManyRedirections ∧
    (send s req cap url hops).1.length = s.maxRedirections + 1 := by
  intro hu hh ht hf hp hr
  unfold send urlsVisited at *
  rw [rd_outs_length, sendLoop_eq, rd_urls_eq] at *
  exact hopLoop_final_at hops url 0 req.headers true _ u hop _ hu hh
    ((rd_step_plain ht).trans (C09_exceed s req cap _ u hop resp (by omega) hf hp hr))

/-- Limit 2 on the chain a → b → c → …: hop 2 (to `c`) is reached; were its answer a redirect … -/
example :
    let hops := rx_chain.take 2 ++ [{ script := rx_redirect "303 See Other" "/x", resolved := some rx_a }]
    (send (rx_settings true 2) rx_req 64 rx_a hops).2 = .tooManyRedirections ∧
    (send (rx_settings true 2) rx_req 64 rx_a hops).1.length = 2 + 1 := by
  intro hops
  obtain ⟨resp, hp, hst, _⟩ := rx_parse (m := .post) (mh := 100) (cap := 64)
    (t := rx_redirect "303 See Other" "/x") (st := 303)
    (hs := [(str "location", str "/x"), (str "content-length", str "0")])
    (by simp only [rx_redirect, str_data]; decide +kernel)
  have hu : (urlsVisited (rx_settings true 2) rx_req 64 rx_a hops)[2]? = some rx_c := by
    simp only [hops, rx_chain, rx_redirect, rx_ok, rx_req, rx_body, str_data]
    decide +kernel
  exact C09_exceed_send (rx_settings true 2) rx_req 64 rx_a hops rx_c _ resp hu rfl
    (rx_no_tunnel ..) rfl hp (by rw [hst]; decide)

/-! ### (c) following disabled -/

theorem C09_off (s : SendSettings) (req : Req) (cap : Nat) (url : Url) (hops : List Hop) :
    s.followRedirects = false →
    (send s req cap url hops).1.length ≤ 1 ∧
    (∀ hop rest resp, hops = hop :: rest → rd_tunnels s url = false →
      parseResponse req.methodM s.maxHeaders cap hop.script = .ok resp →
      (send s req cap url hops).1.length = 1 ∧
      (send s req cap url hops).2 = .ok resp.status url) := by
  intro hf
  -- no hop is followed, so the bound for limit 0 applies
  have hnf : ∀ n hop u next, rd_step s req cap n hop u = .follow next → n + 1 ≤ 0 := by
    intro n hop u next he
    obtain ⟨_, _, _, h, _⟩ := rd_exchange_follow_inv (rd_step_follow_inv he).1
    rw [hf] at h; cases h
  constructor
  · unfold send
    rw [rd_outs_length, rd_urls_eq]
    exact (hopUrls_length_le hnf hops url 0).2
  · intro hop rest resp hh ht hp
    subst hh
    unfold send
    rw [rd_sendLoop_final (f := .ok resp.status url) ht (by simp [exchange, hp, hf])]
    exact ⟨rfl, rfl⟩

/-- The chain a → b → c with following off: one request, the 302 comes back with URL `a`. -/
example : (send (rx_settings false 5) rx_req 64 rx_a rx_chain).1.length = 1 ∧
    (send (rx_settings false 5) rx_req 64 rx_a rx_chain).2 = .ok 302 rx_a := by
  obtain ⟨resp, hp, hst, _⟩ := rx_parse_302
  have := (C09_off (rx_settings false 5) rx_req 64 rx_a rx_chain rfl).2 _ _ resp rfl
    (rx_no_tunnel ..) hp
  rw [hst] at this; exact this

/-! ### (d) selective -/

theorem C09_selective (s : SendSettings) (req : Req) (cap n : Nat) (url : Url) (hop : Hop) (resp : Resp) :
    parseResponse req.methodM s.maxHeaders cap hop.script = .ok resp →
    isRedirectStatus resp.status = false →
    exchange s req cap n url hop = .final (.ok resp.status url) := by
  intro hp hr; simp [exchange, hp, hr]

theorem C09_followed_set (st : Nat) :
    isRedirectStatus st = true ↔ st = 301 ∨ st = 302 ∨ st = 303 ∨ st = 307 ∨ st = 308 := by
  simp [isRedirectStatus, or_assoc]

example : isRedirectStatus 300 = false ∧ isRedirectStatus 304 = false ∧ isRedirectStatus 305 = false ∧
    isRedirectStatus 306 = false ∧ isRedirectStatus 200 = false ∧ isRedirectStatus 399 = false := by
  decide
example : isRedirectStatus 307 = true := (C09_followed_set 307).mpr (by decide)

/-- A 304 with following enabled is returned as it is. -/
example : exchange (rx_settings true 5) rx_req 64 0 rx_a { script := rx_notModified, resolved := some rx_b }
    = .final (.ok 304 rx_a) := by
  obtain ⟨resp, hp, hst, _⟩ := rx_parse (m := .post) (mh := 100) (cap := 64)
    (t := rx_notModified) (st := 304) (hs := []) (by decide +kernel)
  have := C09_selective (rx_settings true 5) rx_req 64 0 rx_a
    { script := rx_notModified, resolved := some rx_b } resp hp (by rw [hst]; decide)
  rw [hst] at this; exact this

/-- Lifted to the loop: a non-followed status ends the loop on that hop, with that hop's URL. -/
theorem C09_selective_loop (s : SendSettings) (req : Req) (cap n : Nat) (url : Url) (hop : Hop)
    (rest : List Hop) (hdrs : Headers) (first : Bool) (resp : Resp) :
    rd_tunnels s url = false →
    parseResponse req.methodM s.maxHeaders cap hop.script = .ok resp →
    isRedirectStatus resp.status = false →
    sendLoop s req cap (hop :: rest) url n hdrs first =
      ([rd_plainOut s req url hdrs first], .ok resp.status url) :=
  fun ht hp hr => rd_sendLoop_final ht (C09_selective s req cap n url hop resp hp hr)

example : (sendLoop (rx_settings true 5) rx_req 64 [{ script := rx_ok, resolved := none }] rx_c 2
    rx_req.headers false).2 = .ok 200 rx_c := by
  obtain ⟨resp, hp, hst, _⟩ := rx_parse (m := .post) (mh := 100) (cap := 64)
    (t := rx_ok) (st := 200) (hs := [(str "content-length", str "2")])
    (by simp only [rx_ok, str_data]; decide +kernel)
  rw [C09_selective_loop (rx_settings true 5) rx_req 64 2 rx_c { script := rx_ok, resolved := none }
    [] _ _ resp (rx_no_tunnel ..) hp (by rw [hst]; decide), hst]

/-! ### (e) `Location` -/

theorem C09_location (s : SendSettings) (req : Req) (cap n : Nat) (url : Url) (hop : Hop) (resp : Resp) :
    parseResponse req.methodM s.maxHeaders cap hop.script = .ok resp →
    isRedirectStatus resp.status = true → s.followRedirects = true → n + 1 ≤ s.maxRedirections →
    (resp.headers.get (hName "location") = none →
      exchange s req cap n url hop = .final .locationHeader) ∧
    (∀ v, resp.headers.get (hName "location") = some v → hop.resolved = none →
      exchange s req cap n url hop = .final .redirectionUrl) ∧
    (∀ v next, resp.headers.get (hName "location") = some v → hop.resolved = some next →
      undialable next = none → exchange s req cap n url hop = .follow next) ∧
    -- a target without host, without known port or with a scheme other than http(s) is unusable too:
    -- the call ends with the error of the next turn, and nothing further is dialled or written
    (∀ v next e, resp.headers.get (hName "location") = some v → hop.resolved = some next →
      undialable next = some e → exchange s req cap n url hop = .final (.err e)) := by
  intro hp hr hf hn
  have hn' : ¬ (n + 1 > s.maxRedirections) := by omega
  refine ⟨fun hl => ?_, fun v hl hres => ?_, fun v next hl hres hd => ?_, fun v next e hl hres hd => ?_⟩
  · simp [exchange, hp, hf, hr, hn', hl]
  · simp [exchange, hp, hf, hr, hn', hl, hres]
  · simp [exchange, hp, hf, hr, hn', hl, hres, hd]
  · simp [exchange, hp, hf, hr, hn', hl, hres, hd]

/-- 301 without `Location`. -/
example : exchange (rx_settings true 5) rx_req 64 0 rx_a { script := rx_noLocation, resolved := none }
    = .final .locationHeader := by
  obtain ⟨resp, hp, hst, hh⟩ := rx_parse (m := .post) (mh := 100) (cap := 64)
    (t := rx_noLocation) (st := 301) (hs := [(str "content-length", str "0")])
    (by simp only [rx_noLocation, str_data]; decide +kernel)
  exact (C09_location (rx_settings true 5) rx_req 64 0 rx_a
    { script := rx_noLocation, resolved := none } resp hp (by rw [hst]; decide) rfl
    (by decide)).1 (by rw [hh]; decide +kernel)
/-- 302 whose `Location` does not resolve; and one that does. -/
example : exchange (rx_settings true 5) rx_req 64 0 rx_a
      { script := rx_redirect "302 Found" "http://[", resolved := none } = .final .redirectionUrl ∧
    exchange (rx_settings true 5) rx_req 64 0 rx_a
      { script := rx_redirect "302 Found" "http://[", resolved := some rx_b } = .follow rx_b := by
  obtain ⟨resp, hp, hst, hh⟩ := rx_parse (m := .post) (mh := 100) (cap := 64)
    (t := rx_redirect "302 Found" "http://[") (st := 302)
    (hs := [(str "location", str "http://["), (str "content-length", str "0")])
    (by simp only [rx_redirect, str_data]; decide +kernel)
  have hl : resp.headers.get (hName "location") = some (str "http://[") := by rw [hh]; decide +kernel
  exact ⟨(C09_location (rx_settings true 5) rx_req 64 0 rx_a
      { script := rx_redirect "302 Found" "http://[", resolved := none } resp hp
      (by rw [hst]; decide) rfl (by decide)).2.1 _ hl rfl,
    (C09_location (rx_settings true 5) rx_req 64 0 rx_a
      { script := rx_redirect "302 Found" "http://[", resolved := some rx_b } resp hp
      (by rw [hst]; decide) rfl (by decide)).2.2.1 _ _ hl rfl (by decide +kernel)⟩

/-- `Location: ftp://files.test/x` resolves, but the client cannot dial it: error, no further hop. -/
example : undialable { rx_b with scheme := str "ftp", effPort := 21 } = some .invalidBaseUrl ∧
    undialable { rx_b with scheme := str "mailto", hostKind := 9, effPort := 0 } = some .invalidUrlHost ∧
    undialable { rx_b with scheme := str "gopher2", effPort := 0 } = some .invalidUrlPort ∧
    undialable rx_b = none := by decide +kernel

/-- Conversely, a redirect is followed only under exactly these conditions. -/
theorem C09_follow_only (s : SendSettings) (req : Req) (cap n : Nat) (url : Url) (hop : Hop) (next : Url) :
    exchange s req cap n url hop = .follow next →
    ∃ resp v, parseResponse req.methodM s.maxHeaders cap hop.script = .ok resp ∧
      s.followRedirects = true ∧ isRedirectStatus resp.status = true ∧
      n + 1 ≤ s.maxRedirections ∧ resp.headers.get (hName "location") = some v ∧
      hop.resolved = some next ∧ undialable next = none :=
  rd_exchange_follow_inv

example : ∃ resp v, parseResponse .post 100 64 (rx_redirect "302 Found" "http://b/2") = .ok resp ∧
      isRedirectStatus resp.status = true ∧ resp.headers.get (hName "location") = some v := by
  obtain ⟨resp, v, h1, _, h3, _, h5, _, _⟩ := C09_follow_only (rx_settings true 5) rx_req 64 0 rx_a
    { script := rx_redirect "302 Found" "http://b/2", resolved := some rx_b } rx_b rx_exchange_chain.1
  exact ⟨resp, v, h1, h3, h5⟩

/-! ### (f) the chain of URLs -/

/-- One step of the loop: a followed redirect sends the next request to `next`, with one more
    redirection counted and the header map of this hop carried over. -/
theorem C09_chain_step (s : SendSettings) (req : Req) (cap n : Nat) (url next : Url)
    (hop h2 : Hop) (rest : List Hop) (hdrs : Headers) (first : Bool) :
    rd_tunnels s url = false → exchange s req cap n url hop = .follow next →
    sendLoop s req cap (hop :: h2 :: rest) url n hdrs first =
      (rd_plainOut s req url hdrs first ::
        (sendLoop s req cap (h2 :: rest) next (n + 1) (rd_hopHdrs s hdrs url) false).1,
       (sendLoop s req cap (h2 :: rest) next (n + 1) (rd_hopHdrs s hdrs url) false).2) :=
  fun ht he => rd_sendLoop_follow_cons ht he

example : sendLoop (rx_settings true 5) rx_req 64 rx_chain rx_a 0 rx_req.headers true =
    (rd_plainOut (rx_settings true 5) rx_req rx_a rx_req.headers true ::
      (sendLoop (rx_settings true 5) rx_req 64 (rx_chain.drop 1) rx_b 1
        (rd_hopHdrs (rx_settings true 5) rx_req.headers rx_a) false).1,
     (sendLoop (rx_settings true 5) rx_req 64 (rx_chain.drop 1) rx_b 1
        (rd_hopHdrs (rx_settings true 5) rx_req.headers rx_a) false).2) :=
  C09_chain_step _ _ _ _ _ _ _ _ _ _ _ (rx_no_tunnel ..) rx_exchange_chain.1

/-- `send` realises the inductive characterisation `Trace`, with `urlsVisited` as the URL list. -/
theorem C09_trace (s : SendSettings) (req : Req) (cap : Nat) (url : Url) (hops : List Hop) :
    Trace s req cap hops url 0 (urlsVisited s req cap url hops) (send s req cap url hops).2 :=
  rd_trace s req cap hops url 0 req.headers true

/-- … and `Trace` determines both (it is a function of the inputs). -/
theorem C09_trace_unique (s : SendSettings) (req : Req) (cap : Nat) (url : Url) (hops : List Hop)
    (us : List Url) (f : Final) :
    Trace s req cap hops url 0 us f →
    us = urlsVisited s req cap url hops ∧ f = (send s req cap url hops).2 :=
  fun h => rd_trace_eq h req.headers true

/-- The chain a → b → c, by hand. -/
example : urlsVisited (rx_settings true 5) rx_req 64 rx_a rx_chain = [rx_a, rx_b, rx_c] ∧
    (send (rx_settings true 5) rx_req 64 rx_a rx_chain).2 = .ok 200 rx_c := by
  have h := C09_trace_unique (rx_settings true 5) rx_req 64 rx_a rx_chain [rx_a, rx_b, rx_c] (.ok 200 rx_c)
    (Trace.follow _ _ _ _ _ rx_b _ _ (rx_no_tunnel ..) rx_exchange_chain.1
      (Trace.follow _ _ _ _ _ rx_c _ _ (rx_no_tunnel ..) rx_exchange_chain.2.1
        (Trace.final _ _ _ _ _ (rx_no_tunnel ..) rx_exchange_chain.2.2)))
  exact ⟨h.1.symm, h.2.symm⟩

/-- One observation per URL visited. -/
theorem C09_chain_length (s : SendSettings) (req : Req) (cap : Nat) (url : Url) (hops : List Hop) :
    (send s req cap url hops).1.length = (urlsVisited s req cap url hops).length :=
  rd_outs_length s req cap hops url 0 req.headers true

/-- The first request goes to the caller's URL. -/
theorem C09_chain_first (s : SendSettings) (req : Req) (cap : Nat) (url : Url) (hops : List Hop) :
    hops ≠ [] → (urlsVisited s req cap url hops)[0]? = some url := by
  intro h
  cases hops with
  | nil => exact absurd rfl h
  | cons hop rest => rw [urlsVisited, rd_urls_eq]; exact hopUrls_head hop rest url 0

/-- Hop `i+1` goes to `next` where `hops[i].resolved = some next`: the resolution of hop `i`'s
    `Location` against hop `i`'s URL `u` (the previous hop, not the original URL) — and hop `i`'s
    response was a followed redirect within the limit. -/
theorem C09_chain_next (s : SendSettings) (req : Req) (cap : Nat) (url : Url) (hops : List Hop)
    (i : Nat) (next : Url) :
    (urlsVisited s req cap url hops)[i + 1]? = some next →
    ∃ hop u, hops[i]? = some hop ∧ (urlsVisited s req cap url hops)[i]? = some u ∧
      hop.resolved = some next ∧ exchange s req cap i u hop = .follow next := by
  unfold urlsVisited
  rw [rd_urls_eq]
  intro h
  obtain ⟨hop, u, h1, h2, h3⟩ := hopUrls_next hops url 0 i next h
  rw [Nat.zero_add] at h3
  obtain ⟨he, _, hres⟩ := rd_step_follow_inv h3
  exact ⟨hop, u, h1, h2, hres, he⟩

/-- The final response carries the URL of the last hop. -/
theorem C09_chain_last (s : SendSettings) (req : Req) (cap : Nat) (url : Url) (hops : List Hop)
    (st : Nat) (u : Url) :
    (send s req cap url hops).2 = .ok st u → (urlsVisited s req cap url hops).getLast? = some u := by
  intro hf
  cases hops with
  | nil => cases hf
  | cons hop0 rest =>
    -- the outcome `.ok` is the final step of the hop made for the last URL
    obtain ⟨hop, u', _, _, m, _, h0, _, hs⟩ :=
      sendLoop_last s req cap (hop0 :: rest) url 0 req.headers true (by simp)
    rw [show (sendLoop s req cap (hop0 :: rest) url 0 req.headers true).2 = _ from hf] at hs
    rcases hs with hs | ⟨_, h⟩
    · rw [rd_step_ok_url hs]; exact h0
    · cases h

/-- The `i`-th connection is made for the `i`-th URL: to the proxy chosen for that URL, or — when
    no proxy applies to it — to that URL's own host and port. -/
theorem C09_chain_dial (s : SendSettings) (req : Req) (cap : Nat) (url : Url) (hops : List Hop)
    (i : Nat) (out : HopOut) :
    (send s req cap url hops).1[i]? = some out →
    ∃ u, (urlsVisited s req cap url hops)[i]? = some u ∧
      out.dialHost = ((s.proxy.forUrl u).getD u).host ∧
      out.dialPort = ((s.proxy.forUrl u).getD u).effPort ∧
      (s.proxy.forUrl u = none → out.dialHost = u.host ∧ out.dialPort = u.effPort ∧
        out.dialScheme = u.scheme) := by
  intro h
  obtain ⟨u, hin, hop, hu, _, _, rfl⟩ := send_outs h
  obtain ⟨h3, h4, h5⟩ := rd_obs_dial s req cap hop u hin (i == 0)
  refine ⟨u, hu, h4, h5, fun hn => ?_⟩
  rw [rd_target, hn] at h3 h4 h5
  exact ⟨h4, h5, h3⟩

/-- On the chain a → b → c: the third connection goes to `c` (resolved from `b`'s answer), the
    response's URL is `c`. -/
example :
    (urlsVisited (rx_settings true 5) rx_req 64 rx_a rx_chain)[2]? = some rx_c ∧
    (∃ hop u, rx_chain[1]? = some hop ∧ (urlsVisited (rx_settings true 5) rx_req 64 rx_a rx_chain)[1]? = some u ∧
      hop.resolved = some rx_c ∧ exchange (rx_settings true 5) rx_req 64 1 u hop = .follow rx_c) ∧
    (urlsVisited (rx_settings true 5) rx_req 64 rx_a rx_chain).getLast? = some rx_c :=
  ⟨congrArg (·[2]?) rx_run_chain.2,
   C09_chain_next (rx_settings true 5) rx_req 64 rx_a rx_chain 1 rx_c (congrArg (·[2]?) rx_run_chain.2),
   C09_chain_last (rx_settings true 5) rx_req 64 rx_a rx_chain 200 rx_c (congrArg Prod.snd rx_run_chain.1)⟩
example : ((send (rx_settings true 5) rx_req 64 rx_a rx_chain).1.map (·.dialHost)) =
    [str "a", str "b", str "c"] := by
  rw [rx_run_chain.1]; rfl
example (out : HopOut) (h : (send (rx_settings true 5) rx_req 64 rx_a rx_chain).1[2]? = some out) :
    out.dialHost = str "c" := by
  obtain ⟨u, hu, _, _, hn⟩ := C09_chain_dial (rx_settings true 5) rx_req 64 rx_a rx_chain 2 out h
  have : u = rx_c := by
    rw [rx_run_chain.2] at hu; exact (Option.some.inj hu).symm
  subst this
  exact (hn (rx_no_proxy ..)).1


/-- Tie to the source: the model's set of followed statuses is the `matches!` list extracted from
    `PreparedRequest::send` on this run (`Gen/Consts.lean`), and that list is exactly the five
    statuses of the statement. -/
theorem C09_redirect_table :
    Consts.redirectStatuses.Perm [301, 302, 303, 307, 308] ∧
    ∀ s, isRedirectStatus s = Consts.redirectStatuses.contains s := by
  refine ⟨by decide, fun s => ?_⟩
  simp [isRedirectStatus, Consts.redirectStatuses, Bool.or_assoc, Bool.beq_eq_decide_eq]

end Atto
