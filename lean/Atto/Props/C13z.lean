/-
  Atto/Props/C13z.lean — property C13 at its boundary value: an overall timeout of zero. The budget
  is used up when the call starts: no address is dialled, the connection phase never succeeds, the
  call ends at once (seed C13-seed11 stored `Duration::ZERO` as "no timeout": the one request that
  should have been refused became the one that is not bounded at all).
-/
import Atto.Lemmas.HappyLemmas
namespace Atto
open Happy

/-- With an overall timeout of zero the connection phase never yields a connection, whatever the
    addresses would do and whatever the connect timeout is. -/
theorem C13_zero_timeout_never_connects (addrs : List Addr) (timeout rd : Nat) (id t : Nat) :
    connect addrs timeout (some 0) rd ≠ .ok id t := by
  intro h
  -- the budget is used up before any attempt starts: every attempt fails at once
  have := hp_connect_sound' (fun p => p.res ≠ none) addrs timeout (some 0) rd
    (fun a _ t => by unfold hp_pend; rw [hp_attemptLimit_past _ 0 t (Nat.zero_le _)]; nofun)
  rw [h] at this
  obtain ⟨_, q, hq, hr, _⟩ := this
  exact hq hr

/-- …and it is over at time 0: no waiting at all -/
example : connect [{ fam := .v4, beh := .accept 0, id := 0 }, { fam := .v6, beh := .accept 5, id := 1 }] 30000 (some 0) 200
    = .err 1 .timedOut 0 := by decide

end Atto
