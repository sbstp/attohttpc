/-
  Atto/Props/C13s.lean — property C13 at interleaving granularity: "a body cut by the deadline is
  never reported as complete … however the library's internal threads are scheduled".

  Model: Atto/Model/WatchdogSteps.lean (`Atto.WdS`): the watchdog's reaction to the deadline is TWO
  steps — `drop(rx)` and `stream.shutdown(Both)` — and any step of the reader, the peer, the clock
  or the caller may come between them.  `df` (`dropFirst`) is the source order of the two; `true` =
  receiver dropped first, which is what src/streams.rs does (extracted on every run into
  `Consts.wdDropsRxBeforeShutdown`).  All statements quantify over EVERY interleaving: every list
  of enabled actions from `init` (`WdS.Reach df s`, or `run df init acts = some (s, outs)`).
  Lemmas: Atto/Lemmas/WatchdogStepsLemmas.lean.

    order (1);(2) (`df = true`):
      `C13s_shut_rx_dropped`        invariant: socket shut ⇒ receiver gone;
      `C13s_cut_not_clean`          shut socket, nothing pending, response alive: `TimedOut`, never `Ok(0)`;
      `C13s_eof_genuine`            `Ok(0)` with the sender held ⇒ peer closed, socket not shut,
                                    watchdog had not acted (and it exits, never touching the socket);
      `C13s_no_close_no_eof`        the peer never closes, the response is not dropped ⇒ no `Ok(0)`, ever;
      `C13s_late_ping_fails`, `C13s_late_ping_genuine`  the reader's 0-length read and its ping taken apart;
      `C13s_refines_atomic`(`_read`) the atomic model `Atto.Wd` reproduces every `Ok(0)`/`TimedOut`;
    both orders:
      `C13s_complete_never_timedout` after an `Ok(0)`: only `Ok(0)` or data, never `TimedOut`;
      `C13s_timedout_due`           a `TimedOut` is reported only once the deadline has been reached;
    the other order (`df = false`):
      `C13s_order_matters`          an explicit interleaving: peer never closes, deadline passes, a
                                    read returns `Ok(0)` — the property fails;
    `C13s_source_order`             the order found in the source ⇒ all of the `df = true` statements.
-/
import Atto.Lemmas.WatchdogStepsLemmas
import Atto.Gen.Consts
namespace Atto
open Atto.WdS

/-! ### order (1);(2): a cut body is not a complete body -/

/-- With `drop(rx)` before `shutdown`: in every state of every interleaving, if the watchdog has
    shut the socket then its receiver is already gone — so a ping sent after a read was woken by
    the shutdown must fail. -/
theorem C13s_shut_rx_dropped {df : Bool} (h : df = true) {s : St} (r : Reach df s)
    (hs : s.shut = true) : s.rxAlive = false := by
  subst h; exact inv_shut_rx_dead (inv_reach r) hs

/-- The watchdog has shut the socket, nothing is left to deliver, the response is alive: the read
    (any non-empty buffer) returns `TimedOut` and changes nothing — in every reachable state, i.e.
    however the watchdog's two actions, the reader, the peer and the clock were interleaved. -/
theorem C13s_cut_not_clean {df : Bool} (h : df = true) {s : St} (r : Reach df s) (n : Nat)
    (hn : 0 < n) (hs : s.shut = true) (hp : s.pending = 0) (hx : s.hasTx = true) :
    step df s (.read n) = some (s, some .timedOut) := by
  subst h; exact step_read_iff.mpr (read_cut (inv_reach r) n hn hs hp hx)

/-- … in particular never `Ok(0)` -/
theorem C13s_cut_never_eof {df : Bool} (h : df = true) {s s' : St} (r : Reach df s) (n : Nat)
    (hs : s.shut = true) (hp : s.pending = 0) (hx : s.hasTx = true) :
    step df s (.read n) ≠ some (s', some .eof) := by
  intro he
  have hn : 0 < n := (read_cases (step_read_iff.mp he)).1
  rw [C13s_cut_not_clean h r n hn hs hp hx] at he
  cases he

/-- the same as the last step of a whole interleaving -/
theorem C13s_cut_not_clean_run {df : Bool} (h : df = true) {s : St} {acts : List Act}
    {outs : List Out} (hr : run df init acts = some (s, outs)) (n : Nat) (hn : 0 < n)
    (hs : s.shut = true) (hp : s.pending = 0) (hx : s.hasTx = true) :
    run df init (acts ++ [.read n]) = some (s, outs ++ [.timedOut]) :=
  run_append hr
    (run_cons.mpr ⟨s, some .timedOut, [], C13s_cut_not_clean h ⟨acts, outs, hr⟩ n hn hs hp hx, rfl, rfl⟩)

/-- 10 bytes of a longer body arrive, the deadline passes, the watchdog drops its receiver, the
    reader takes the data, the watchdog shuts the socket: `TimedOut`, again and again -/
example : run true init [.send 10, .tick, .wdFire, .read 8, .wdFire, .read 8, .read 8, .read 8] =
    some ({ pc := .done, rxAlive := false, shut := true, due := true }, [.data 8, .data 2, .timedOut, .timedOut]) := by
  decide
example : step true { pc := .done, rxAlive := false, shut := true, due := true } (.read 8) =
    some ({ pc := .done, rxAlive := false, shut := true, due := true }, some .timedOut) :=
  C13s_cut_not_clean rfl ⟨[.tick, .wdFire, .wdFire], [], by decide⟩ 8 (by decide) rfl rfl rfl
/-- between the two actions the socket is still open: the read blocks (is not enabled) -/
example : run true init [.tick, .wdFire, .read 8] = none := by decide

/-! ### order (1);(2): only a genuine end of stream is passed on -/

/-- With the sender held, a read returns `Ok(0)` only if the peer has closed, the socket is not
    shut and the watchdog has not begun to act; the ping then makes the watchdog exit (its receiver
    goes with it), the reader forgets its sender, and the socket stays open. -/
theorem C13s_eof_genuine {df : Bool} (h : df = true) {s s' : St} {n : Nat} (r : Reach df s)
    (hx : s.hasTx = true) (hst : step df s (.read n) = some (s', some .eof)) :
    s.peerClosed = true ∧ s.shut = false ∧ s.pc = .waiting ∧ s.pending = 0 ∧
      s'.pc = .exited ∧ s'.rxAlive = false ∧ s'.hasTx = false ∧ s'.shut = false := by
  subst h
  obtain ⟨h1, h2, h3, h4, h5⟩ := read_eof_genuine (inv_reach r) hx (step_read_iff.mp hst)
  subst h5
  exact ⟨h1, h2, h3, h4, rfl, rfl, rfl, h2⟩

/-- … and afterwards, whatever happens, this watchdog never shuts the socket -/
theorem C13s_eof_never_shuts {df : Bool} (h : df = true) {s s1 s' : St} {n : Nat} {acts : List Act}
    {outs : List Out} (r : Reach df s) (hx : s.hasTx = true)
    (hst : step df s (.read n) = some (s1, some .eof)) (hr : run df s1 acts = some (s', outs)) :
    s'.shut = false := by
  obtain ⟨_, _, _, _, h5, _, _, h8⟩ := C13s_eof_genuine h r hx hst
  rw [((run_mono hr).exited h5).2, h8]

/-- the peer closes after 3 bytes, long before the deadline; the deadline passing later changes nothing -/
example : run true init [.send 3, .close, .read 8, .read 8, .tick, .read 8] =
    some ({ pc := .exited, rxAlive := false, hasTx := false, peerClosed := true, due := true },
      [.data 3, .eof, .eof]) := by decide
example := C13s_eof_genuine (df := true) rfl (s := { peerClosed := true }) (n := 8)
  (s' := { pc := .exited, rxAlive := false, hasTx := false, peerClosed := true })
  ⟨[.close], [], by decide⟩ rfl (by decide)
/-- the deadline has passed but the watchdog has not acted yet: the peer's close is still genuine -/
example : run true init [.close, .tick, .read 8, .read 8] =
    some ({ pc := .exited, rxAlive := false, hasTx := false, peerClosed := true, due := true },
      [.eof, .eof]) := by decide
/-- the peer closed, but the watchdog dropped its receiver first: `TimedOut`, not `Ok(0)` -/
example : (run true init [.close, .tick, .wdFire, .read 8]).map (·.2) = some [.timedOut] := by decide

/-- The property itself, on whole interleavings: if the peer never closes and the response is not
    dropped, then NO read ever returns `Ok(0)` — whenever the deadline strikes and however the
    watchdog's two actions are scheduled against the reader; the response stays alive. -/
theorem C13s_no_close_no_eof {df : Bool} (h : df = true) {s : St} {acts : List Act} {outs : List Out}
    (hr : run df init acts = some (s, outs)) (hnc : Act.close ∉ acts)
    (hnd : Act.dropResponse ∉ acts) : Out.eof ∉ outs ∧ s.hasTx = true := by
  subst h
  obtain ⟨h1, h2, _⟩ := no_close_no_eof (inv_init true) rfl rfl hr hnc hnd
  exact ⟨h1, h2⟩

example : Out.eof ∉ [Out.data 8, .data 2, .timedOut, .timedOut] :=
  (C13s_no_close_no_eof (df := true) rfl (s := { pc := .done, rxAlive := false, shut := true, due := true })
    (acts := [.send 10, .tick, .wdFire, .read 8, .wdFire, .read 8, .read 8, .read 8])
    (by decide) (by decide) (by decide)).1

/-! ### order (1);(2): the reader's socket read and its ping taken apart

  `read` performs the 0-length socket read and the ping in one step.  The two statements below are
  the reason nothing is lost by that: take the state `s0` in which the socket read returned 0 and
  ANY later state `s1` of the interleaving in which the ping is sent. -/

/-- the 0 came from the watchdog's shutdown: the ping fails, however late it is sent -/
theorem C13s_late_ping_fails {df : Bool} (h : df = true) {s0 s1 : St} {acts : List Act}
    {outs : List Out} (r : Reach df s0) (hs : s0.shut = true)
    (hr : run df s0 acts = some (s1, outs)) : (ping s1).1 = false := by
  rw [ping_fst]
  exact (run_mono hr).rx (C13s_shut_rx_dropped h r hs)

/-- the ping succeeds, however late: the 0 was the peer's end of stream and the socket was (and
    still is) not shut -/
theorem C13s_late_ping_genuine {df : Bool} (h : df = true) {s0 s1 : St} {acts : List Act}
    {outs : List Out} (r : Reach df s0) (hz : s0.peerClosed = true ∨ s0.shut = true)
    (hr : run df s0 acts = some (s1, outs)) (hp : (ping s1).1 = true) :
    s0.peerClosed = true ∧ s0.shut = false ∧ s1.shut = false := by
  subst h; rw [ping_fst] at hp
  have h1 := (inv_rx_alive_waiting (inv_reach (r.along hr)) hp).2
  have h0 : s0.shut = false := by
    cases hs0 : s0.shut with
    | false => rfl
    | true => rw [(run_mono hr).shut hs0] at h1; cases h1
  exact ⟨by simpa [h0] using hz, h0, h1⟩

/-- the socket read sees the shutdown; the caller drops nothing, the peer closes, time passes: the
    ping still fails -/
example : (ping { pc := .done, rxAlive := false, shut := true, peerClosed := true, due := true }).1 = false :=
  C13s_late_ping_fails (df := true) rfl (s0 := { pc := .done, rxAlive := false, shut := true, due := true })
    (acts := [.close]) (outs := []) ⟨[.tick, .wdFire, .wdFire], [], by decide⟩ rfl (by decide)
/-- the peer closed, the socket read returned 0, then the deadline is reached but the watchdog has
    not acted when the ping is sent -/
example := C13s_late_ping_genuine (df := true) rfl (s0 := { peerClosed := true })
  (s1 := { peerClosed := true, due := true }) (acts := [.tick]) (outs := [])
  ⟨[.close], [], by decide⟩ (.inl rfl) (by decide) (by decide)

/-! ### both orders -/

/-- After a read has returned `Ok(0)`, every later read of the interleaving returns `Ok(0)` or data,
    never `TimedOut` — for either order of the watchdog's actions, from any state, whatever the
    watchdog, the peer, the clock and the caller do in between. -/
theorem C13s_complete_never_timedout {df : Bool} {s s' : St} {acts : List Act} {outs o1 o2 : List Out}
    (hr : run df s acts = some (s', outs)) (ho : outs = o1 ++ .eof :: o2) :
    ∀ x ∈ o2, (x = .eof ∨ ∃ k, x = .data k) ∧ x ≠ .timedOut := by
  intro x hx
  have := after_eof hr ho x hx
  refine ⟨this, ?_⟩
  rcases this with h | ⟨k, h⟩ <;> rw [h] <;> simp

/-- the step form: the state after an `Ok(0)` admits no `TimedOut` -/
theorem C13s_complete_never_timedout' {df : Bool} {s s1 s' : St} {n : Nat} {acts : List Act}
    {outs : List Out} (hst : step df s (.read n) = some (s1, some .eof))
    (hr : run df s1 acts = some (s', outs)) : ∀ x ∈ outs, x ≠ .timedOut := by
  intro x hx
  rcases noTx_run hr (eof_step_noTx hst) x hx with h | ⟨k, h⟩ <;> rw [h] <;> simp

/-- the end is seen before the deadline; afterwards the deadline passes and the watchdog would have
    nothing to do; more reads, a late segment: `Ok(0)`, data, `Ok(0)` -/
example : (run true init [.close, .read 8, .tick, .read 8, .send 2, .read 8, .read 1]).map (·.2) =
    some [.eof, .eof, .data 2, .eof] := by decide
example := C13s_complete_never_timedout (df := true) (s := init)
  (acts := [.close, .read 8, .tick, .read 8, .send 2, .read 8, .read 1])
  (outs := [.eof, .eof, .data 2, .eof]) (o1 := []) (o2 := [.eof, .data 2, .eof])
  (s' := { pc := .exited, rxAlive := false, hasTx := false, peerClosed := true, due := true })
  (by decide) rfl
/-- also for the other order, where the `Ok(0)` was a wrong one -/
example : (run false init [.tick, .wdFire, .read 8, .wdFire, .read 8]).map (·.2) = some [.eof, .eof] := by
  decide

/-- For either order: a `TimedOut` is reported only once the deadline has been reached (and by a
    reader that holds its sender and finds the receiver gone); the read changes nothing. -/
theorem C13s_timedout_due {df : Bool} {s s' : St} {n : Nat} (r : Reach df s)
    (hst : step df s (.read n) = some (s', some .timedOut)) :
    s.due = true ∧ s.hasTx = true ∧ s.rxAlive = false ∧ s' = s :=
  read_timedOut_due (inv_reach r) (step_read_iff.mp hst)

example := C13s_timedout_due (df := true) (s := { pc := .done, rxAlive := false, shut := true, due := true })
  (n := 8) ⟨[.tick, .wdFire, .wdFire], [], by decide⟩
  (s' := { pc := .done, rxAlive := false, shut := true, due := true }) (by decide)

/-! ### the other order: the property fails -/

/-- If the socket were shut BEFORE the receiver is dropped (`df = false`), there is an interleaving
    in which the peer never closes and the response is never dropped, the deadline passes, the
    watchdog shuts the socket, and the reader — scheduled between the watchdog's two actions — gets
    a successful ping and returns `Ok(0)`: 5 bytes of a longer body, then a clean end. -/
theorem C13s_order_matters :
    ∃ (acts : List Act) (s : St), run false init acts = some (s, [.data 5, .eof]) ∧
      Act.close ∉ acts ∧ Act.dropResponse ∉ acts ∧ s.peerClosed = false ∧ s.due = true :=
  ⟨[.send 5, .tick, .wdFire, .read 8, .read 8],
    { pc := .afterFirst, shut := true, hasTx := false, due := true }, by decide, by decide, by decide, rfl, rfl⟩

/-- hence the statement of `C13s_no_close_no_eof` is false for that order -/
theorem C13s_order_matters' :
    ¬ (∀ (s : St) (acts : List Act) (outs : List Out), run false init acts = some (s, outs) →
        Act.close ∉ acts → Act.dropResponse ∉ acts → Out.eof ∉ outs) := by
  intro hall
  obtain ⟨acts, s, hr, h1, h2, _⟩ := C13s_order_matters
  exact hall s acts _ hr h1 h2 (by decide)

/-- and so is the invariant: a shut socket with the receiver still alive is reachable -/
theorem C13s_order_matters_inv : ∃ s, Reach false s ∧ s.shut = true ∧ s.rxAlive = true :=
  ⟨{ pc := .afterFirst, shut := true, due := true }, ⟨[.tick, .wdFire], [], by decide⟩, rfl, rfl⟩

/-- the very same schedule under the source's order: the read between the two actions blocks (the
    socket is not shut yet), and after the second action it reports the timeout -/
example : run true init [.send 5, .tick, .wdFire, .read 8, .read 8] = none := by decide
example : (run true init [.send 5, .tick, .wdFire, .read 8, .wdFire, .read 8]).map (·.2) =
    some [.data 5, .timedOut] := by decide

/-! ### order (1);(2): the atomic model is a sound abstraction -/

/-- Outcome correspondence.  `WdS.Rel c a` relates a state of the interleaving model to a state of
    the atomic model `Atto.Wd` (armed / fired — from `drop(rx)` on — / ended).  In related states,
    an `Ok(0)` or `TimedOut` returned by the interleaving model's read is exactly what `Wd.read`
    returns, and the states after the read are related again. -/
theorem C13s_refines_atomic_read {df : Bool} (h : df = true) {c c' : St} {a : Wd.St} {n : Nat}
    {x : Out} (r : Reach df c) (hrel : Rel c a) (hst : step df c (.read n) = some (c', some x))
    (hx : x = .eof ∨ x = .timedOut) :
    ∃ a', Wd.read a n = (absOut x, a') ∧ Rel c' a' := by
  subst h
  obtain ⟨a', h1, h2, _⟩ := read_refines (inv_reach r) hrel (step_read_iff.mp hst) hx
  exact ⟨a', h1, h2⟩

/-- Simulation.  Every interleaving from `init` in which the response is not dropped is matched,
    step by step, by a run of the atomic model from `Wd.init d rt` (any deadline `d > 0`, any
    receive timeout): `drop(rx)` ↦ the clock reaching the deadline (the atomic firing), `close` ↦
    `close`, a read returning `Ok(0)`/`TimedOut` ↦ a read returning the same; `tick`, `shutdown`,
    arriving bytes and data reads ↦ nothing.  The run of the atomic model reports the same sequence
    of `Ok(0)`/`TimedOut` results, and the final states are related. -/
theorem C13s_refines_atomic {df : Bool} (h : df = true) {c : St} {acts : List Act} {outs : List Out}
    (d rt : Nat) (hd : 0 < d) (hr : run df init acts = some (c, outs))
    (hnd : Act.dropResponse ∉ acts) :
    ∃ l a, Wd.Trace (Wd.init d rt) l a ∧ l.filterMap lblOut = outs.filterMap endOf ∧ Rel c a := by
  subst h
  obtain ⟨l, a, h1, h2, h3, _⟩ := sim_run (inv_init true) (rel_init d rt hd) rfl rfl hr hnd
  exact ⟨l, a, h1, h2, h3⟩

/-- bytes, the deadline, `drop(rx)`, a read, `shutdown`, two more reads: the atomic model reports
    `TimedOut` twice as well -/
example : ∃ l a, Wd.Trace (Wd.init 100 30) l a ∧ l.filterMap lblOut = [.timedOut, .timedOut] ∧
    Rel { pc := .done, rxAlive := false, shut := true, due := true } a :=
  C13s_refines_atomic (df := true) rfl 100 30 (by decide)
    (acts := [.send 10, .tick, .wdFire, .read 8, .wdFire, .read 8, .read 8, .read 8])
    (outs := [.data 8, .data 2, .timedOut, .timedOut]) (by decide) (by decide)
example : Rel init (Wd.init 100 30) := rel_init 100 30 (by decide)
example : ∃ a', Wd.read { Wd.init 100 30 with peerClosed := true } 8 = (absOut .eof, a') ∧
    Rel { pc := .exited, rxAlive := false, hasTx := false, peerClosed := true } a' :=
  C13s_refines_atomic_read (df := true) rfl (c := { peerClosed := true }) (n := 8)
    ⟨[.close], [], by decide⟩
    ⟨rfl, rfl, fun _ => ⟨rfl, rfl⟩, .inl ⟨rfl, rfl, rfl, by decide, rfl⟩⟩ (by decide) (.inl rfl)

/-! ### the order found in the source -/

/-- the statements that hold for the order `drop(rx)`; `shutdown` -/
def C13sGuarantee (df : Bool) : Prop :=
  (∀ s, Reach df s → s.shut = true → s.rxAlive = false) ∧
  (∀ s n, Reach df s → 0 < n → s.shut = true → s.pending = 0 → s.hasTx = true →
    step df s (.read n) = some (s, some .timedOut)) ∧
  (∀ s s' n, Reach df s → s.hasTx = true → step df s (.read n) = some (s', some .eof) →
    s.peerClosed = true ∧ s.shut = false ∧ s.pc = .waiting ∧ s.pending = 0 ∧
      s'.pc = .exited ∧ s'.rxAlive = false ∧ s'.hasTx = false ∧ s'.shut = false) ∧
  (∀ s acts outs, run df init acts = some (s, outs) → Act.close ∉ acts → Act.dropResponse ∉ acts →
    Out.eof ∉ outs ∧ s.hasTx = true) ∧
  (∀ c c' a n x, Reach df c → Rel c a → step df c (.read n) = some (c', some x) →
    x = .eof ∨ x = .timedOut → ∃ a', Wd.read a n = (absOut x, a') ∧ Rel c' a') ∧
  (∀ c acts outs d rt, 0 < d → run df init acts = some (c, outs) → Act.dropResponse ∉ acts →
    ∃ l a, Wd.Trace (Wd.init d rt) l a ∧ l.filterMap lblOut = outs.filterMap endOf ∧ Rel c a)

theorem C13s_of_order (df : Bool) (h : df = true) : C13sGuarantee df :=
  ⟨fun _ r hs => C13s_shut_rx_dropped h r hs,
   fun _ n r hn hs hp hx => C13s_cut_not_clean h r n hn hs hp hx,
   fun _ _ _ r hx hst => C13s_eof_genuine h r hx hst,
   fun _ _ _ hr hnc hnd => C13s_no_close_no_eof h hr hnc hnd,
   fun _ _ _ _ _ r hrel hst hx => C13s_refines_atomic_read h r hrel hst hx,
   fun _ _ _ d rt hd hr hnd => C13s_refines_atomic h d rt hd hr hnd⟩

/-- The order of the two statements in the watchdog thread of src/streams.rs, as extracted from the
    source on every run: if `drop(rx)` comes before `stream.shutdown(..)`, all of the above holds
    for the library as written. -/
theorem C13s_source_order :
    Consts.wdDropsRxBeforeShutdown = true → C13sGuarantee Consts.wdDropsRxBeforeShutdown :=
  C13s_of_order _

/-- and the guarantee does not hold for the opposite order -/
theorem C13s_not_other_order : ¬ C13sGuarantee false := by
  intro ⟨h1, _⟩
  obtain ⟨s, r, hs, hrx⟩ := C13s_order_matters_inv
  rw [h1 s r hs] at hrx; cases hrx

/-- THE PROOF OBLIGATION tied to the source: the extracted order is "receiver dropped first", hence the
    guarantee holds for the library as written.  A change of `src/streams.rs` that shuts the socket
    down before dropping the receiver (or leaves the drop to the end of the thread) regenerates
    `Consts.wdDropsRxBeforeShutdown = false` and this theorem no longer checks. -/
theorem C13s_source_order_holds : C13sGuarantee Consts.wdDropsRxBeforeShutdown :=
  C13s_source_order (by decide)

end Atto
