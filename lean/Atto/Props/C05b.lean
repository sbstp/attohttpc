/-
  Atto/Props/C05b.lean — "hostile peers cannot balloon the client", the header-field limit for ANY
  field lines: `max_headers` counts every field line, also the ones that are dropped because their
  name is not a token, so a peer cannot make the head parser read an unbounded number of lines by
  sending lines that are never stored.
  Helper lemmas: Lemmas/HeadFlat.lean (`FieldLinesOK`, `renderLines` are defined there).
-/
import Atto.Lemmas.Pipeline
import Atto.Lemmas.ExampleData
namespace Atto

/-- After the status line, ANY `mh + 1` or more field lines (whatever their content — valid, invalid
    name, no colon, bad value) make the head parser stop with an error after at most `mh + 1` of them:
    nothing behind them (`rest`, arbitrary, possibly endless) is consumed. Flat stream. -/
theorem C05_field_lines_bounded_flat (statusLine : Bytes) (lines : List Bytes) (rest : List Item) (mh : Nat)
    (hs : (10 : UInt8) ∉ statusLine ∧ statusLine.length + 2 ≤ Consts.maxLineLen ∧
      (∃ c, parseStatusLine statusLine = .ok c))
    (hl : FieldLinesOK lines) (hn : mh < lines.length) :
    ∃ e k, k ≤ mh ∧
      parseResponseHead flatSrc (bytesI (statusLine ++ [13, 10] ++ renderLines lines) ++ rest) mh =
        (.err e, bytesI (renderLines (lines.drop (k + 1))) ++ rest) := by
  obtain ⟨h10, hlen, c, hc⟩ := hs
  obtain ⟨e, k, hk, hr⟩ := fieldLoop_bounded mh lines 0 [] (Nat.zero_le _) (by omega)
  exact ⟨e, k, hk, head_lines_err ⟨h10, hlen, hc⟩ hl.whole rest hr⟩

namespace C05b
deriving instance DecidableEq for RR
/-- `HTTP/1.1 200 OK` -/
def exStatus : Bytes := str "HTTP/1.1 200 OK"
/-- a line whose name is not a token (dropped, but counted), a valid field, a line without colon -/
def exLines : List Bytes := [str "x y: v", str "A: b", str "nocolon"]
/-- what follows: bytes, an error, more bytes, silence -/
def exRest : List Item := [.byte 1, .byte 2, .err 5, .byte 3, .pause]
/-- a segmentation of the whole stream: 9 bytes, 20 bytes, the rest of the lines, then `exRest` -/
def exT : Transport :=
  let w := exStatus ++ [13, 10] ++ renderLines exLines
  [.data (w.take 9), .data ((w.drop 9).take 20), .data (w.drop 29), .data [1, 2], .err 5, .data [3], .pause]
theorem exStatus_ok : (10 : UInt8) ∉ exStatus ∧ exStatus.length + 2 ≤ Consts.maxLineLen ∧
    (∃ c, parseStatusLine exStatus = .ok c) :=
  ⟨by decide +kernel, by decide +kernel, 200, by decide +kernel⟩
theorem exLines_ok : FieldLinesOK exLines := by decide +kernel
end C05b

/-- non-vacuity, `max_headers = 1` (stops at the second line, counted although the first was dropped) -/
example := C05_field_lines_bounded_flat C05b.exStatus C05b.exLines C05b.exRest 1
  C05b.exStatus_ok C05b.exLines_ok (by decide)

/-- non-vacuity, `max_headers = 2` (stops at the third line) -/
example := C05_field_lines_bounded_flat C05b.exStatus C05b.exLines C05b.exRest 2
  C05b.exStatus_ok C05b.exLines_ok (by decide)

/-- The same on the real reader (BufReader over any segmentation `t` of the stream, any capacity):
    the head parser returns an error after at most `mh + 1` field lines, and the position in the
    stream (`flat`) is right behind that line — the remaining lines and `rest` are not consumed. -/
theorem C05_field_lines_bounded (statusLine : Bytes) (lines : List Bytes) (rest : List Item) (mh : Nat)
    (t : Transport) (cap : Nat) (hw : wfT t) (hc : 0 < cap)
    (hs : (10 : UInt8) ∉ statusLine ∧ statusLine.length + 2 ≤ Consts.maxLineLen ∧
      (∃ c, parseStatusLine statusLine = .ok c))
    (hl : FieldLinesOK lines) (hn : mh < lines.length)
    (hflat : flatT t = bytesI (statusLine ++ [13, 10] ++ renderLines lines) ++ rest) :
    ∃ e k r', k ≤ mh ∧ parseResponseHead bufSrc { buf := [], cap := cap, inner := t } mh = (.err e, r') ∧
      r'.flat = bytesI (renderLines (lines.drop (k + 1))) ++ rest := by
  obtain ⟨e, k, hk, hr⟩ := C05_field_lines_bounded_flat statusLine lines rest mh hs hl hn
  obtain ⟨r', h1, h2, _⟩ := head_of_flat t cap mh hw hc (hflat ▸ hr)
  exact ⟨e, k, r', hk, h1, h2⟩

/-- non-vacuity: the three lines cut into segments, capacity 4, `max_headers = 2` -/
example := C05_field_lines_bounded C05b.exStatus C05b.exLines C05b.exRest 2 C05b.exT 4
  (by decide +kernel) (by decide) C05b.exStatus_ok C05b.exLines_ok (by decide) (by decide +kernel)

/-- … and where it stops on this input: `Header` after 2 resp. 3 lines; the stream position is right
    behind that line (evaluated on the real reader) -/
example : (parseResponseHead bufSrc { buf := [], cap := 4, inner := C05b.exT } 1).1 = .err .header ∧
    (parseResponseHead bufSrc { buf := [], cap := 4, inner := C05b.exT } 1).2.flat =
      bytesI (renderLines (C05b.exLines.drop 2)) ++ C05b.exRest := by decide +kernel
example : (parseResponseHead bufSrc { buf := [], cap := 4, inner := C05b.exT } 2).1 = .err .header ∧
    (parseResponseHead bufSrc { buf := [], cap := 4, inner := C05b.exT } 2).2.flat =
      bytesI (renderLines (C05b.exLines.drop 3)) ++ C05b.exRest := by decide +kernel

end Atto
