/-
  Atto/Props/C02c.lean — "Incomplete or corrupt framing never reads as complete", for CODED bodies
  (`Content-Encoding: gzip` / `deflate`; src/parsing/compressed_reader.rs, `finish_body` and the
  `Deflate` / `Gzip` arms of `impl Read for CompressedReader`).

  The situation. A gzip / deflate decoder sits on top of the body reader (chunked / Content-Length /
  close-delimited, `Body.read`). It reads the body with buffer sizes of its own choosing and stops
  where ITS compressed stream ends — which can be before the point where the body's framing ends
  (the last-chunk `0 CRLF CRLF` of a chunked body carries no compressed data, so the decoder never
  asks for it). Before the change a response cut right there (all compressed data present, the
  terminator missing) was reported as complete. Now, when the decoder returns `Ok(0)`, the library
  calls `finish_body`: it reads the body on, 512 bytes at a time, until the body reader itself says
  `Ok(0)` or fails; the caller's read returns that. Model: Model/CodedEnd.lean — `finishBody`, and
  `codedEnd maxBuf fuel ns b`, the result of the caller's read at the moment the decoder reports its
  end after having issued the reads `ns` on the body `b`. The decoder is NOT modelled: `ns` is an
  arbitrary list of buffer sizes, and every statement below holds for every `ns` (and every `fuel`,
  the bound on the iterations of `finish_body`'s loop; running out of fuel is `panic`, never `ok`).

  What is proved:

  * `C02_coded_end_is_body_end` (the bridge): if the coded read reports a clean end
    (`codedEnd … = .ok ()`), then the PLAIN body reader reports a clean end (`Ok(0)` on a 512-byte
    buffer) to a caller that issues the decoder's reads `ns` and then reads 512 bytes at a time:
    event number `ns.length + j` of the schedule `ns ++ [512, …, 512]` (`j + 1` times) is `ok []`.
    (`C02_coded_end_is_body_end_k`: the same with `k = j + 1`, `0 < k`, index `ns.length + k - 1`.)
    Hence every theorem of Props/C02, C02u that says "no clean end for any schedule unless …"
    carries over to coded bodies (`coded_end_cases` is the bridge as the rule that does it). Three of
    them are carried over here:

  * `C02_coded_chunked_clean_end_needs_terminator` (from `C02_chunked_clean_end_needs_terminator_tr`):
    chunked framing over ANY stream `rest` after the head. A coded read reports a clean end only if
    `rest` really contains — free of errors and stalls up to there, Interrupted errors excepted — a
    chunk-size line that parses to 0, a trailer section and a line ending.

  * `C02_coded_length_cut` (from `C02_length_cut`): `Content-Length: n`, the connection closed after
    fewer than `n` bytes: the coded read never reports a clean end, whatever the decoder read.

  * `C02_coded_chunked_cut` (from `C02_chunked_cut`): a chunked body cut inside a chunk or inside the
    last-chunk / trailer section (in particular: cut right BEFORE the last-chunk, the case the change
    is about), followed by EOF, a non-Interrupted I/O error or a stall: the coded read never reports
    a clean end, whatever the decoder read.

  The `example`s at the end evaluate the model on concrete transports: a complete chunked body on
  which the decoder stopped after 3 bytes ends cleanly (`ok ()`, so the statements are not vacuous);
  the same body without its last-chunk, all data read by the decoder, ends with `UnexpectedEof`.

  Not stated here: WHICH error / stall a cut body ends with (only that it is not a clean end), and
  that `finish_body` terminates (`fuel`); the decoder's own verdict on its data (CRC, length) is
  outside the model.
-/
import Atto.Lemmas.Drain
import Atto.Props.C02
import Atto.Props.C02u
namespace Atto

local notation "L" => Consts.maxLineLen
local notation "CL" => Consts.chunkSizeLineLimit

/-- the reads of an appended schedule: first `ns`, then `ms` on the reader `ns` left behind -/
theorem reads_append (m : Nat) (ns ms : List Nat) (b : Body) :
    reads m (ns ++ ms) b =
      ((reads m ns b).1 ++ (reads m ms (reads m ns b).2).1, (reads m ms (reads m ns b).2).2) := by
  induction ns generalizing b with
  | nil => simp [reads]
  | cons n ns ih =>
    rcases h : b.read m n with ⟨res, b'⟩
    simp only [List.cons_append, reads, h, ih, List.cons_append]

/-- `finish_body` returns `Ok(0)` only because one of its 512-byte reads of the body did -/
theorem finishBody_ok (maxBuf fuel : Nat) (b : Body) (h : (finishBody maxBuf fuel b).1 = .ok ()) :
    ∃ j, (reads maxBuf (List.replicate (j + 1) 512) b).1[j]? = some (.ok []) := by
  rw [Dr.finishBody_eq maxBuf fuel b [], Dr.drainLoop_eq] at h
  cases hd : Dr.drEv (reads maxBuf (List.replicate fuel 512) b).1 [] with
  | ok a =>
    obtain ⟨j, hj⟩ := Dr.drEv_ok hd
    have hlt : j < fuel := by
      simpa [reads_length] using (List.getElem?_eq_some_iff.1 hj).1
    refine ⟨j, ?_⟩
    rw [← List.getElem?_take_of_succ, reads_take, List.take_replicate,
      Nat.min_eq_left (Nat.succ_le_of_lt hlt)] at hj
    exact hj
  | _ => rw [hd] at h; cases h

/-- (the bridge) a clean end of the coded body IS a clean end of the plain body: if the coded read
    returns `Ok(0)` after the decoder issued the reads `ns`, then a caller of the plain body reader
    who issues `ns` and then reads 512 bytes at a time gets `Ok(0)` on one of those 512-byte reads
    (the `j`-th of them, counting from 0). For every body reader `b`, in any state. -/
theorem C02_coded_end_is_body_end (maxBuf fuel : Nat) (ns : List Nat) (b : Body)
    (h : codedEnd maxBuf fuel ns b = .ok ()) :
    ∃ j, (reads maxBuf (ns ++ List.replicate (j + 1) 512) b).1[ns.length + j]? = some (.ok []) := by
  obtain ⟨j, hj⟩ := finishBody_ok maxBuf fuel _ h
  refine ⟨j, ?_⟩
  rw [reads_append]
  simp only
  rw [List.getElem?_append_right (by rw [reads_length]; omega), reads_length,
    Nat.add_sub_cancel_left]
  exact hj

/-- the bridge with a count `k` of 512-byte reads instead of an index: `0 < k`, and the last of the
    `k` reads (event number `ns.length + k - 1`) returns `Ok(0)` -/
theorem C02_coded_end_is_body_end_k (maxBuf fuel : Nat) (ns : List Nat) (b : Body)
    (h : codedEnd maxBuf fuel ns b = .ok ()) :
    ∃ k, 0 < k ∧
      (reads maxBuf (ns ++ List.replicate k 512) b).1[ns.length + k - 1]? = some (.ok []) := by
  obtain ⟨j, hj⟩ := C02_coded_end_is_body_end maxBuf fuel ns b h
  refine ⟨j + 1, Nat.succ_pos j, ?_⟩
  rw [show ns.length + (j + 1) - 1 = ns.length + j by omega]
  exact hj

/-- the bridge as a rule: what follows, for every schedule, from a read into a non-empty buffer
    answered `Ok(0)` follows from a clean end of the coded body -/
theorem coded_end_cases {maxBuf : Nat} {b : Body} {P : Prop}
    (h : ∀ (ns : List Nat) i (hi : i < ns.length), 0 < ns[i] →
      (reads maxBuf ns b).1[i]? = some (.ok []) → P)
    {fuel : Nat} {ns : List Nat} (hc : codedEnd maxBuf fuel ns b = .ok ()) : P := by
  obtain ⟨j, hj⟩ := C02_coded_end_is_body_end maxBuf fuel ns b hc
  refine h (ns ++ List.replicate (j + 1) 512) (ns.length + j)
    (by rw [List.length_append, List.length_replicate]; omega) ?_ hj
  rw [List.getElem_append_right (by omega), List.getElem_replicate]
  decide

/-- chunked framing over ANY stream `rest` after the head, a coded body on top: whatever the decoder
    read (`ns`) before it reported the end of its stream, the caller's read reports a clean end ONLY
    if `rest = head ++ post` where `head`, once its Interrupted errors (`err 0`, retried inside std)
    are removed, is exactly the bytes `pre ++ line ++ trs ++ eol`: `line` a chunk-size line that
    parses to 0, `trs` a trailer section (at most `MAX_TRAILER_LINES` lines, none empty), `eol` LF or
    CRLF. Same hypotheses and same conclusion as `C02_chunked_clean_end_needs_terminator_tr`
    (Props/C02u.lean), which is the statement for an uncoded body. -/
theorem C02_coded_chunked_clean_end_needs_terminator (h : HeadS) (rest : List Item)
    (t : Transport) (cap maxBuf mh : Nat) (m : Method)
    (hwf : wfT t) (hcap : 0 < cap) (hmb : 0 < maxBuf) (hh : h.WF L)
    (hmh : h.fields.length ≤ mh) (hms : h.fields.length ≤ Headers.maxSize)
    (hf : chooseFraming m h.code h.seen = .ok .chunked)
    (hflat : flatT t = bytesI h.render ++ rest) :
    ∃ resp, parseResponse m mh cap t = .ok resp ∧
      ∀ (fuel : Nat) (ns : List Nat), codedEnd maxBuf fuel ns resp.body = .ok () →
        ∃ (pre line trs eol : Bytes) (head post : List Item), rest = head ++ post ∧
          head.filter (fun x => x != Item.err 0) = bytesI (pre ++ line ++ trs ++ eol) ∧
          (∃ l, stripEol line = some l ∧ parseChunkSize l = .ok 0) ∧
          (∃ raws : List Bytes, trs = raws.flatten ∧ raws.length ≤ Consts.maxTrailerLines ∧
            ∀ raw ∈ raws, ∃ t, stripEol raw = some t ∧ t ≠ []) ∧
          (eol = [10] ∨ eol = [13, 10]) := by
  obtain ⟨resp, hr, _⟩ := C02_chunked_clean_end_needs_terminator_tr h rest t cap maxBuf mh m []
    hwf hcap hmb hh hmh hms hf hflat
  refine ⟨resp, hr, fun fuel ns => coded_end_cases fun ns i hi hn hev => ?_⟩
  obtain ⟨resp', hr', hp⟩ := C02_chunked_clean_end_needs_terminator_tr h rest t cap maxBuf mh m ns
    hwf hcap hmb hh hmh hms hf hflat
  rw [hr] at hr'
  cases hr'
  exact hp i hi hn hev

/-- `Content-Length: n` but the connection is closed after `pre`, fewer than `n` bytes, a coded body
    on top: whatever the decoder read (`ns`) before it reported the end of its stream — even if its
    compressed stream was complete within `pre` — the caller's read does not report a clean end.
    Same hypotheses as `C02_length_cut` (Props/C02.lean). -/
theorem C02_coded_length_cut (h : HeadS) (pre : Bytes) (n : Nat)
    (t : Transport) (cap maxBuf mh : Nat) (m : Method)
    (hwf : wfT t) (hcap : 0 < cap) (hh : h.WF L)
    (hmh : h.fields.length ≤ mh) (hms : h.fields.length ≤ Headers.maxSize)
    (hnb : bodyless m h.code = false) (hch : isChunked h.seen = false)
    (hcl : isContentLength h.seen = .ok (some n)) (hpre : pre.length < n)
    (hflat : flatT t = bytesI (h.render ++ pre)) :
    ∃ resp, parseResponse m mh cap t = .ok resp ∧ resp.status = h.code ∧
      resp.headers = h.seen.remove nameTE ∧
      ∀ (fuel : Nat) (ns : List Nat), codedEnd maxBuf fuel ns resp.body ≠ .ok () := by
  obtain ⟨r1, hok, hfl, hp⟩ := parseResponse_framed_end h hh pre t cap mh hwf hcap hmh hms hflat
    (chooseFraming_length hnb hch hcl)
  exact ⟨_, hp, rfl, rfl, fun fuel ns hc => coded_end_cases
    (fun ns => (cut_run maxBuf ns (Exact.cut hok hpre hfl) (Nat.sub_pos_of_lt hpre)).1) hc⟩

/-- a chunked body cut strictly inside a chunk or inside the last-chunk with its trailer section
    (`part = []` with the `LastS` alternative: cut right before the last-chunk, all data chunks
    complete), then EOF, a non-Interrupted I/O error followed by anything, or a stall; a coded body on
    top: whatever the decoder read (`ns`) before it reported the end of its stream, the caller's
    read does not report a clean end. Same hypotheses as `C02_chunked_cut` (Props/C02.lean). -/
theorem C02_coded_chunked_cut (h : HeadS) (cs : List ChunkS) (part : Bytes) (tailItems : List Item)
    (t : Transport) (cap maxBuf mh : Nat) (m : Method)
    (hwf : wfT t) (hcap : 0 < cap) (hmb : 0 < maxBuf) (hh : h.WF L)
    (hcs : ∀ c ∈ cs, c.WF CL)
    (hmh : h.fields.length ≤ mh) (hms : h.fields.length ≤ Headers.maxSize)
    (hnb : bodyless m h.code = false) (hch : isChunked h.seen = true)
    (hp : (∃ c : ChunkS, c.WF CL ∧ part.length < c.enc.length ∧ part <+: c.enc) ∨
          (∃ l : LastS, l.WF CL ∧ part.length < l.enc.length ∧ part <+: l.enc))
    (ht : tailItems = [] ∨ (∃ k r, k ≠ 0 ∧ tailItems = .err k :: r) ∨
          (∃ r, tailItems = .pause :: r))
    (hflat : flatT t = bytesI (h.render ++ encChunks cs ++ part) ++ tailItems) :
    ∃ resp, parseResponse m mh cap t = .ok resp ∧ resp.status = h.code ∧
      resp.headers = h.seen.remove nameTE ∧
      ∀ (fuel : Nat) (ns : List Nat), codedEnd maxBuf fuel ns resp.body ≠ .ok () := by
  obtain ⟨r1, hok, hfl, hpr⟩ := parseResponse_framed h hh _ tailItems t cap mh hwf hcap hmh hms
    (by rw [hflat, List.append_assoc]) (chooseFraming_chunked hnb hch)
  exact ⟨_, hpr, rfl, rfl, fun fuel ns hc => coded_end_cases
    (fun ns => (chunked_truncated_ev r1 hok maxBuf hmb ns cs hcs part tailItems hp ht hfl).1) hc⟩

/-! ### non-vacuity, on concrete transports (capacity 8, `MAX_BUFFER_LEN` 4, `max_headers` 100) -/

deriving instance DecidableEq for RR

namespace C02c
/-- two complete chunks, the last-chunk missing: the stream ends (EOF) right behind the data -/
def noLastT : Transport := Ex.seg2 (Ex.headTE.render ++ encChunks Ex.chunks)
/-- one complete chunk, the second cut after 9 of its 16 bytes, a connection reset, more bytes -/
def resetT : Transport :=
  Ex.seg (Ex.headTE.render ++ encChunks [Ex.chunks[0]] ++ Ex.chunks[1].enc.take 9) ++
    [.err 104, .data [1, 2]]
/-- `Content-Length: 11`, only `hello` arrives -/
def shortT : Transport := Ex.seg (Ex.headCL.render ++ str "hello")
end C02c

/-- a COMPLETE chunked body (two chunks, last-chunk, then bytes of the next response); the decoder
    stopped after one read of 3 bytes: `finish_body` reads the rest and the coded read ends cleanly.
    (So `codedEnd … = .ok ()` does occur: the theorems above are not vacuous.) -/
example : (parseResponse .get 100 8 C02u.okT).bind (fun r => codedEnd 4 20 [3] r.body) = .ok () := by
  decide +kernel

/-- the same with a trailer section behind the last-chunk, the decoder having read all the data -/
example : (parseResponse .get 100 8 C02u.okTT).bind
    (fun r => codedEnd 4 20 [100, 100, 100] r.body) = .ok () := by
  decide +kernel

/-- … and `finish_body` out of fuel is a `panic`, not a clean end -/
example : (parseResponse .get 100 8 C02u.okT).bind (fun r => codedEnd 4 2 [3] r.body) = .panic := by
  decide +kernel

/-- the case the change is about: all data chunks complete and read by the decoder (three reads of
    up to 100 bytes), the last-chunk missing: `UnexpectedEof`, not a clean end -/
example : (parseResponse .get 100 8 C02c.noLastT).bind
    (fun r => codedEnd 4 20 [100, 100, 100] r.body) = .err .eof := by
  decide +kernel

/-- … the theorem on that transport (`cs` both chunks, `part = []`, cut before `Ex.last`) -/
example := C02_coded_chunked_cut Ex.headTE Ex.chunks [] [] C02c.noLastT 8 4 100 .get
  (Ex.wfT_seg2 _ (Ex.long (Nat.lt_trans (by decide) Ex.headTE_long))) (by decide) (by decide)
  Ex.headTE_wf Ex.chunks_wf (by decide) (by decide) rfl Ex.headTE_chunked
  (.inr ⟨Ex.last, Ex.last_wf, by decide +kernel, List.nil_prefix⟩)
  (.inl rfl)
  (by rw [C02c.noLastT, Ex.flatT_seg2, List.append_nil, List.append_nil])

/-- a chunk cut by a connection reset (kind 104), the decoder stopped after 3 bytes: the reset is
    what the coded read returns -/
example : (parseResponse .get 100 8 C02c.resetT).bind
    (fun r => codedEnd 4 20 [3] r.body) = .err (.io 104) := by
  decide +kernel

/-- … the theorem on that transport -/
example := C02_coded_chunked_cut Ex.headTE [Ex.chunks[0]] Ex.resetPart
  Ex.resetTail C02c.resetT 8 4 100 .get
  (Ex.wfT_seg_append _ _ (Ex.long (Ex.long Ex.headTE_long)) (by decide)) (by decide) (by decide)
  Ex.headTE_wf Ex.chunk0_wf
  (by decide) (by decide) rfl Ex.headTE_chunked
  (.inl Ex.resetPart_in_chunk)
  (.inr (.inl Ex.resetTail_err))
  (Ex.flatT_seg_append _ _)

/-- `Content-Length: 11`, `hello`, EOF; the decoder stopped after 3 bytes: `UnexpectedEof` -/
example : (parseResponse .get 100 8 C02c.shortT).bind
    (fun r => codedEnd 4 20 [3] r.body) = .err .eof := by
  decide +kernel

/-- … the theorem on that transport -/
example := C02_coded_length_cut Ex.headCL (str "hello") 11 C02c.shortT 8 4 100 .get
  (Ex.wfT_seg _ (Ex.long Ex.headCL_long)) (by decide) Ex.headCL_wf (by decide) (by decide) rfl
  Ex.headCL_chunked Ex.headCL_cl Ex.hello_short (Ex.flatT_seg _)

/-- the clean-end theorem on the complete body -/
example := C02_coded_chunked_clean_end_needs_terminator Ex.headTE C02u.okRest C02u.okT 8 4 100 .get
  C02u.okT_wf (by decide) (by decide) Ex.headTE_wf (by decide) (by decide) Ex.headTE_framing
  C02u.okT_flat

end Atto
