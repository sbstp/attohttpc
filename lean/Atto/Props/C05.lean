/-
  Atto/Props/C05.lean — "hostile peers cannot crash, hang or balloon the client".

  Termination is by construction: every model function is total and Lean checked it. The loops of
  the model carry fuel, and the fuel-exhaustion branches return `.panic`; so the no-panic theorems
  below also say that the fuel bounds suffice (no loop is cut short), besides excluding the Rust
  panics that the model tracks (slice index, `usize` underflow, `Take`'s `assert!`, `unwrap`).

  The peer is ANY scripted transport `t` (`wfT t` only excludes empty data segments, which mean EOF
  to the code): any bytes, any segmentation, I/O errors (Interrupted included) and silences.
  Helper lemmas: Lemmas/NoPanic.lean, Lemmas/HeadFlat.lean, Lemmas/FlatPrims.lean, Lemmas/ChunkBuf.lean,
  Lemmas/ConnectCap.lean, Lemmas/Pipeline.lean.
-/
import Atto.Lemmas.NoPanic
import Atto.Lemmas.ChunkBuf
import Atto.Lemmas.ConnectCap
import Atto.Props.C04
namespace Atto

/-- a hostile script: garbage, an Interrupted error, a hard error, garbage, then silence -/
def C05.exT : Transport := [.data [255, 0, 10, 58], .err 0, .data [13], .err 7, .data [10, 10], .pause]

/-! ### (m) (n) (o) no panic, whatever the peer sends -/

/-- (m) `parse_response_head` never panics. -/
theorem C05_no_panic_head (t : Transport) (cap mh : Nat) (hw : wfT t) (hc : 0 < cap) :
    (parseResponseHead bufSrc { buf := [], cap := cap, inner := t } mh).1 ≠ .panic := by
  obtain ⟨r1, h1, -⟩ := head_flat t cap mh hw hc
  rw [h1]
  exact head_no_panic _ mh

example : wfT C05.exT ∧ 0 < 1 := by decide

/-- (n) `parse_response` never panics. -/
theorem C05_no_panic_response (m : Method) (t : Transport) (cap mh : Nat) (hw : wfT t) (hc : 0 < cap) :
    parseResponse m mh cap t ≠ .panic :=
  (parseResponse_ok m t cap mh hw hc).1

/-- (o) Reading a body never panics: for every framing, every healthy BufReader state (as left by
    the head parser), every `MAX_BUFFER_LEN` and every sequence of caller buffer sizes (0 included).
    In particular `Take`'s `assert!(n <= limit)` holds and `&buffer[consumed..]` is in range. -/
theorem C05_no_panic_reads (f : Framing) (r1 : BufR) (maxBuf : Nat) (ns : List Nat) (h : r1.Ok) :
    ∀ e ∈ (reads maxBuf ns (Body.new f r1)).1, e ≠ Ev.panic :=
  (reads_no_panic maxBuf ns (Body.new f r1) (Body.new_ok f r1 h)).1

example : (⟨[1, 2], 3, C05.exT⟩ : BufR).Ok := by decide

/-- (o) for every body produced by `parse_response`. -/
theorem C05_no_panic_reads_response (m : Method) (t : Transport) (cap mh maxBuf : Nat) (ns : List Nat)
    (resp : Resp) (hw : wfT t) (hc : 0 < cap) (hr : parseResponse m mh cap t = .ok resp) :
    ∀ e ∈ (reads maxBuf ns resp.body).1, e ≠ Ev.panic := by
  obtain ⟨f, r1, hb, hok, _⟩ := (parseResponse_ok m t cap mh hw hc).2 resp hr
  rw [hb]
  exact C05_no_panic_reads f r1 maxBuf ns hok

/-- non-vacuity: the example head of C04, cut in two, is parsed successfully (chunked body) -/
example : ∃ resp, parseResponse .get 100 5 C04.exT = .ok resp :=
  (C04_response .get C04.exHead C04.exRest C04.exT 5 100 .chunked C04.exT_wf (by decide)
    C04.exHead_wf (by decide) (by decide) C04.exT_flat C04.exHead_framing).imp fun _ h => h.1

/-! ### (p) the chunk buffer is bounded -/

/-- (p) After any `read` of the chunked decoder, the buffer holds at most `maxBuf` chunk bytes or a
    size line shorter than `chunkSizeLineLimit`: no allocation proportional to a declared chunk
    size. Flat stream. -/
theorem C05_chunk_buffer_bounded (c : Chunked (List Item)) (maxBuf n : Nat)
    (hb : c.buffer.length ≤ maxBuf) :
    (c.read flatSrc maxBuf n).2.buffer.length ≤ max maxBuf Consts.chunkSizeLineLimit :=
  Chunked.read_buffer_bounded_flat c maxBuf n (by omega)

/-- a chunk that declares 2^60 bytes, `maxBuf = 4` -/
example : (Chunked.read flatSrc { inner := bytesI (str "1000000000000000\r\nab") } 4 100).2.buffer.length
    ≤ max 4 Consts.chunkSizeLineLimit :=
  C05_chunk_buffer_bounded _ 4 100 (by decide)

/-- (p) as an invariant, through the BufReader model over any transport, along any read history;
    with the production `MAX_BUFFER_LEN`. -/
theorem C05_chunk_buffer_bounded_buf (ns : List Nat) (r : BufR) (h : r.Ok) :
    (readsC bufSrc Consts.maxBufferLen ns { inner := r }).2.buffer.length ≤
      max Consts.maxBufferLen Consts.chunkSizeLineLimit :=
  (readsC_buffer_bounded_buf Consts.maxBufferLen ns { inner := r } h (by simp)).1

/-- (p) the one-step invariant, any `maxBuf`, BufReader model. -/
theorem C05_chunk_buffer_inv_buf (c : Chunked BufR) (maxBuf n : Nat) (h : c.inner.Ok)
    (hb : c.buffer.length ≤ max maxBuf Consts.chunkSizeLineLimit) :
    (c.read bufSrc maxBuf n).2.buffer.length ≤ max maxBuf Consts.chunkSizeLineLimit ∧
    (c.read bufSrc maxBuf n).2.inner.Ok :=
  Chunked.read_buffer_bounded_buf c maxBuf n h hb

/-! ### (q) lines are bounded -/

/-- (q) A `take(limit).read_until(b'\n')` returns at most `limit` bytes, and what it consumed is a
    prefix `pre` of the stream made of exactly those bytes plus the Interrupted errors it skipped
    (so at most `limit + (number of skipped err-0 items)` items). -/
theorem C05_line_bounded (is : List Item) (limit : Nat) (bs : Bytes) (l' : Nat)
    (h : (specUntil limit is []).1 = .ok (bs, l')) :
    bs.length ≤ limit ∧
    ∃ pre, is = pre ++ (specUntil limit is []).2 ∧
      pre.length = bs.length + pre.count (Item.err 0) ∧
      pre.length ≤ limit + pre.count (Item.err 0) := by
  obtain ⟨e2, pre, e3, e4⟩ := specUntil_ok h
  have hlen := noIntr_length pre
  rw [e4, bytesI_length] at hlen
  exact ⟨by omega, pre, e3, hlen, by omega⟩

example : (specUntil 3 [.byte 1, .err 0, .byte 2, .byte 3, .byte 4] []).1 = .ok ([1, 2, 3], 0) := by
  simp [specUntil]

/-- (q) the same bound for the BufReader model over any transport. -/
theorem C05_line_bounded_buf (r : BufR) (limit : Nat) (bs : Bytes) (l' : Nat) (hok : r.Ok)
    (h : (r.readUntil limit).1 = .ok (bs, l')) : bs.length ≤ limit := by
  rw [(readUntil_refines r limit hok).1] at h
  exact (C05_line_bounded r.flat limit bs l' h).1

/-- (q) A head line without end is rejected after exactly `maxLineLen` bytes, independently of what
    follows: `rest` (possibly an endless stream) is untouched. -/
theorem C05_endless_line (pre : Bytes) (rest : List Item) (mh : Nat)
    (hn : ∀ b ∈ pre, b ≠ 10) (hl : pre.length = Consts.maxLineLen) :
    parseResponseHead flatSrc (bytesI pre ++ rest) mh = (.err .eof, rest) := by
  unfold parseResponseHead
  rw [readLine_endless pre _ rest (fun h => hn 10 h rfl) (Nat.le_of_eq hl.symm),
    List.drop_of_length_le (Nat.le_of_eq hl)]
  rfl

example : (∀ b ∈ List.replicate Consts.maxLineLen (65 : UInt8), b ≠ 10) ∧
    (List.replicate Consts.maxLineLen (65 : UInt8)).length = Consts.maxLineLen :=
  ⟨fun b hb => by rw [List.eq_of_mem_replicate hb]; decide, List.length_replicate⟩

/-- (q) the same through the BufReader model, for every segmentation of the stream. -/
theorem C05_endless_line_buf (pre : Bytes) (rest : List Item) (t : Transport) (cap mh : Nat)
    (hw : wfT t) (hc : 0 < cap) (hn : ∀ b ∈ pre, b ≠ 10) (hl : pre.length = Consts.maxLineLen)
    (hflat : flatT t = bytesI pre ++ rest) :
    ∃ r', parseResponseHead bufSrc { buf := [], cap := cap, inner := t } mh = (.err .eof, r') ∧
      r'.flat = rest := by
  obtain ⟨r', h1, h2, _⟩ := head_of_flat t cap mh hw hc (hflat ▸ C05_endless_line pre rest mh hn hl)
  exact ⟨r', h1, h2⟩

/-- (q) A chunk-size line without end is rejected after exactly `chunkSizeLineLimit` bytes: the read
    fails with UnexpectedEof, `rest` is untouched, the failure is latched, the buffer is empty. -/
theorem C05_endless_size_line (c : Chunked (List Item)) (pre : Bytes) (rest : List Item)
    (maxBuf n : Nat) (hf : c.failed = false) (hb : c.buffer.length = c.consumed)
    (hr : c.remaining = 0) (he : c.reachedEof = false) (hi : c.inner = bytesI pre ++ rest)
    (hn : ∀ b ∈ pre, b ≠ 10) (hl : pre.length = Consts.chunkSizeLineLimit) :
    (c.read flatSrc maxBuf n).1 = .err .eof ∧ (c.read flatSrc maxBuf n).2.inner = rest ∧
    (c.read flatSrc maxBuf n).2.failed = true ∧ (c.read flatSrc maxBuf n).2.buffer = [] := by
  have hrl := readLine_endless pre Consts.chunkSizeLineLimit rest (fun h => hn 10 h rfl)
    (Nat.le_of_eq hl.symm)
  rw [List.drop_of_length_le (Nat.le_of_eq hl)] at hrl
  simp [Chunked.read, Chunked.fillBuf, Chunked.refill, Chunked.readChunkSize, hf, hb, hr, he, hi, hrl]

/-- a fresh decoder (`ChunkedReader::new`) is at a chunk boundary -/
example (pre : Bytes) (rest : List Item) :
    let c : Chunked (List Item) := { inner := bytesI pre ++ rest }
    c.failed = false ∧ c.buffer.length = c.consumed ∧ c.remaining = 0 ∧ c.reachedEof = false ∧
      c.inner = bytesI pre ++ rest := ⟨rfl, rfl, rfl, rfl, rfl⟩
example : (∀ b ∈ List.replicate Consts.chunkSizeLineLimit (49 : UInt8), b ≠ 10) ∧
    (List.replicate Consts.chunkSizeLineLimit (49 : UInt8)).length = Consts.chunkSizeLineLimit :=
  ⟨fun b hb => by rw [List.eq_of_mem_replicate hb]; decide, List.length_replicate⟩

/-! ### (r) too many header fields -/

/-- (r) A head with more than `max_headers` (well-formed) fields is refused with `Header`, for every
    segmentation; the parser stops right after the `(mh+1)`-th field line: the remaining field lines
    and `rest` are not consumed. -/
theorem C05_too_many_headers (h : HeadS) (rest : List Item) (t : Transport) (cap mh : Nat)
    (hw : wfT t) (hc : 0 < cap) (hwf : h.WF Consts.maxLineLen)
    (hmh : mh < h.fields.length) (hcap : mh ≤ Headers.maxSize)
    (hflat : flatT t = bytesI h.render ++ rest) :
    ∃ r', parseResponseHead bufSrc { buf := [], cap := cap, inner := t } mh = (.err .header, r') ∧
      r'.flat = bytesI (renderFields (h.fields.drop (mh + 1)) ++ [13, 10]) ++ rest := by
  obtain ⟨r', h1, h2, _⟩ := head_of_flat t cap mh hw hc
    (hflat ▸ head_too_many h hwf rest mh hmh hcap)
  exact ⟨r', h1, h2⟩

/-- the result alone is `C04_max_exact` -/
example (h : HeadS) (rest : List Item) (t : Transport) (cap mh : Nat)
    (hw : wfT t) (hc : 0 < cap) (hwf : h.WF Consts.maxLineLen)
    (hmh : mh < h.fields.length) (hcap : mh ≤ Headers.maxSize)
    (hflat : flatT t = bytesI h.render ++ rest) :
    (parseResponseHead bufSrc { buf := [], cap := cap, inner := t } mh).1 = .err .header :=
  C04_max_exact h rest t cap mh hw hc hwf hmh hcap hflat

/-- three fields against `max_headers = 2` -/
example : wfT C04.exT ∧ 0 < 7 ∧ C04.exHead.WF Consts.maxLineLen ∧ 2 < C04.exHead.fields.length ∧
    2 ≤ Headers.maxSize ∧ flatT C04.exT = bytesI C04.exHead.render ++ C04.exRest :=
  ⟨C04.exT_wf, by decide, C04.exHead_wf, by decide, by decide, C04.exT_flat⟩

/-! ### (s) the body of a refused CONNECT is capped -/

/-- (s) At most `connectBodyCap` bytes of a proxy's error body are read (no hypothesis on `r`). -/
theorem C05_connect_cap (r : BufR) (fuel : Nat) (body : Bytes)
    (h : readToEndTake fuel r Consts.connectBodyCap [] = .ok body) :
    body.length ≤ Consts.connectBodyCap :=
  readToEndTake_le fuel r _ [] body h

/-- (s) … and the fuel that `initiate_tunnel` passes suffices. -/
theorem C05_connect_no_panic (r : BufR) (fuel : Nat) (hok : r.Ok)
    (hf : Consts.connectBodyCap + r.inner.length + 2 ≤ fuel) :
    readToEndTake fuel r Consts.connectBodyCap [] ≠ .panic :=
  readToEndTake_no_panic fuel r _ [] hok (by omega)

example : readToEndTake 5 ⟨[1], 2, [.data [2, 3], .err 0, .data [4]]⟩ 3 [] = .ok [1, 2, 3] := by
  rfl

/-- (s) `initiate_tunnel` as a whole: no panic, and a reported error body is capped. -/
theorem C05_tunnel (t : Transport) (cap mh : Nat) (hw : wfT t) (hc : 0 < cap) :
    initiateTunnel mh cap t ≠ Final.panic ∧
    ∀ status body, initiateTunnel mh cap t = .connectError status body →
      body.length ≤ Consts.connectBodyCap := by
  have hnp := C05_no_panic_head t cap mh hw hc
  have hok := (parseResponseHead_sim bufSim { buf := [], cap := cap, inner := t } mh ⟨hw, hc⟩).2.2
  unfold initiateTunnel
  simp only
  rcases hh : parseResponseHead bufSrc { buf := [], cap := cap, inner := t } mh with ⟨res, r1⟩
  rw [hh] at hnp hok
  cases res with
  | ok v =>
    obtain ⟨st, hs⟩ := v
    simp only
    split
    · exact ⟨nofun, nofun⟩
    · have h1 := C05_connect_no_panic r1 _ hok (Nat.le_refl _)
      have h2 := C05_connect_cap r1 (Consts.connectBodyCap + r1.inner.length + 2)
      rcases hr : readToEndTake (Consts.connectBodyCap + r1.inner.length + 2) r1
        Consts.connectBodyCap [] with body | e | _ | _
      · exact ⟨nofun, fun s b h => by cases h; exact h2 body hr⟩
      · exact ⟨nofun, nofun⟩
      · exact ⟨nofun, nofun⟩
      · exact absurd hr h1
  | err e => exact ⟨nofun, nofun⟩
  | blocked => exact ⟨nofun, nofun⟩
  | panic => simp at hnp

/-! ### (t) the limits themselves -/

/-- (t) Absolute obligations on the constants extracted from the Rust source on every run: they
    break if someone removes or inflates a limit. -/
theorem C05_consts :
    Consts.maxLineLen ≤ 65536 ∧ Consts.chunkSizeLineLimit ≤ 1024 ∧ Consts.connectBodyCap = 10240 ∧
    Consts.maxBufferLen ≤ 1048576 ∧ 0 < Consts.maxBufferLen ∧ 2 ≤ Consts.chunkSizeLineLimit ∧
    2 ≤ Consts.maxLineLen := by decide

end Atto
