/-
  Atto/Props/C10r.lean — a prepared request can be sent again: the only thing a `send` leaves behind in
  the request is the `Host` field of its last connection, and the next `send` overwrites it before
  anything is written. So sending again is the same exchange — same connections, same bytes, same
  outcome — whatever the earlier send did (redirects, proxy decisions, errors).
  (`PreparedRequest::send(&mut self)`: `self.headers` is the state that survives; `self.url`,
  `self.body`, the settings are not written by `send`. Bodies that cannot be written twice are the
  `bodyRewindable = false` case of C10_full_refuted_oneshot.)
-/
import Atto.Model.Send
import Atto.Model.SendT
import Atto.Lemmas.RqHeaders
namespace Atto

/-- the redirect loop does not depend on the `Host` field the header map holds when it starts:
    a header map in which some earlier connection's `Host` has been set gives the same connections,
    the same bytes on each of them and the same outcome -/
theorem C10_loop_forgets_host (s : SendSettings) (req : Req) (cap : Nat) (hops : List Hop)
    (url : Url) (n : Nat) (hdrs : Headers) (first : Bool) (u0 : Url) :
    sendLoop s req cap hops url n (setHost hdrs u0) first = sendLoop s req cap hops url n hdrs first := by
  cases hops with
  | nil => rfl
  | cons hop rest =>
    simp only [sendLoop, rq_setHost_setHost]

/-- `send` again = `send`: with the header map as ANY earlier send left it (prepared headers with
    the `Host` of that send's last connection), the exchange is the one of a fresh send -/
theorem C10_resend (s : SendSettings) (req : Req) (cap : Nat) (url : Url) (hops : List Hop) (last : Url) :
    sendLoop s req cap hops url 0 (setHost req.headers last) true = send s req cap url hops :=
  C10_loop_forgets_host s req cap hops url 0 req.headers true last

/-- the same with the requests inside CONNECT tunnels observed (`sendLoopT`) -/
theorem C10_loopT_forgets_host (s : SendSettings) (req : Req) (cap : Nat) (hops : List Hop)
    (url : Url) (n : Nat) (hdrs : Headers) (first : Bool) (u0 : Url) :
    sendLoopT s req cap hops url n (setHost hdrs u0) first = sendLoopT s req cap hops url n hdrs first := by
  cases hops with
  | nil => rfl
  | cons hop rest =>
    simp only [sendLoopT, rq_setHost_setHost]

theorem C10_resendT (s : SendSettings) (req : Req) (cap : Nat) (url : Url) (hops : List Hop) (last : Url) :
    sendLoopT s req cap hops url 0 (setHost req.headers last) true = sendT s req cap url hops :=
  C10_loopT_forgets_host s req cap hops url 0 req.headers true last

/-- non-vacuity: the header map after a send whose last connection went to `b.test` -/
example : setHost (setHost [(hName "accept", str "*/*")]
      { scheme := str "http", user := [], pass := none, host := str "b.test", hostKind := 0, port := none,
        effPort := 80, path := str "/", query := none, fragment := none })
      { scheme := str "http", user := [], pass := none, host := str "a.test", hostKind := 0, port := none,
        effPort := 80, path := str "/", query := none, fragment := none }
    = [(hName "accept", str "*/*"), (hName "host", str "a.test")] := by decide +kernel

end Atto
