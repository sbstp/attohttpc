/-
  Atto/Props/C14.lean — "TLS peers are authenticated unless the caller explicitly opts out".
  What is proved here is attohttpc's own logic: which settings reach which handshake, which name each
  handshake is given, and the forgiveness rules of the rustls `CustomCertVerifier`. The X.509 verdict
  (`Tls.upstream`: chain building, validity period, name matching by webpki / OpenSSL) is a parameter;
  it is enumerated exhaustively against real handshakes by the harness (see DESIGN.md, C14).
-/
import Atto.Model.Tls
import Atto.Props.C16
namespace Atto
open Tls

/-- The matrix of the statement: a peer is accepted iff its chain is trusted, it is within its
    validity period and it matches the name — or invalid certificates are accepted (waives
    everything) — or invalid host names are accepted and ONLY the name is wrong. -/
theorem C14_matrix (f : Flags) (chainOk timeOk nameOk : Bool) :
    verify f (upstream chainOk timeOk nameOk) = true ↔
      (chainOk = true ∧ timeOk = true ∧ nameOk = true) ∨ f.acceptInvalidCerts = true ∨
      (f.acceptInvalidHostnames = true ∧ chainOk = true ∧ timeOk = true) := by
  cases chainOk <;> cases timeOk <;> cases nameOk <;>
    cases h1 : f.acceptInvalidCerts <;> cases h2 : f.acceptInvalidHostnames <;>
    simp [verify, upstream, h1, h2]

example : verify ⟨false, true, 0⟩ (upstream true true false) = true ∧
          verify ⟨false, true, 0⟩ (upstream true false false) = false := by decide

/-- accepting invalid host names waives only the name match -/
theorem C14_hostnames_waives_only_name (roots : Nat) (chainOk timeOk nameOk : Bool) :
    verify ⟨false, true, roots⟩ (upstream chainOk timeOk nameOk) = (chainOk && timeOk) := by
  cases chainOk <;> cases timeOk <;> cases nameOk <;> rfl

/-- accepting invalid certificates waives everything -/
theorem C14_certs_waives_all (aih : Bool) (roots : Nat) (v : Verdict) :
    verify ⟨true, aih, roots⟩ v = true := by
  cases v <;> simp [verify]

/-- both flags are off by default, and then only a fully valid peer is accepted -/
theorem C14_default_off :
    applyBaseSettings ({} : Scalars) = ⟨false, false, 0⟩ ∧
    ∀ v, verify (applyBaseSettings ({} : Scalars)) v = true ↔ v = .ok := by
  refine ⟨rfl, ?_⟩
  intro v; cases v <;> simp [verify, applyBaseSettings]

/-- the handshaker carries exactly the three values of the request's own settings: no other setting
    influences it, and each of the three does -/
theorem C14_flags_reach_handshake (s : Scalars) :
    (applyBaseSettings s).acceptInvalidCerts = s.acceptInvalidCerts ∧
    (applyBaseSettings s).acceptInvalidHostnames = s.acceptInvalidHostnames ∧
    (applyBaseSettings s).roots = s.rootCerts ∧
    ∀ s' : Scalars, s'.acceptInvalidCerts = s.acceptInvalidCerts →
      s'.acceptInvalidHostnames = s.acceptInvalidHostnames → s'.rootCerts = s.rootCerts →
      applyBaseSettings s' = applyBaseSettings s := by
  refine ⟨rfl, rfl, rfl, ?_⟩
  intro s' h1 h2 h3
  simp [applyBaseSettings, h1, h2, h3]

example : applyBaseSettings { acceptInvalidCerts := true, maxHeaders := 7 } = ⟨true, false, 0⟩ := rfl

/-- which name each handshake is verified against: the URL's host for a direct connection; inside a
    CONNECT tunnel the ORIGIN's host, never the proxy's; an https proxy is itself verified against
    the proxy's host first -/
theorem C14_names (url : Url) (hs : url.scheme = str "https") :
    handshakeNames url none = [url.host] ∧
    (∀ p : Url, p.scheme = str "http" → handshakeNames url (some p) = [url.host]) ∧
    (∀ p : Url, p.scheme = str "https" → handshakeNames url (some p) = [p.host, url.host]) := by
  refine ⟨?_, ?_, ?_⟩
  · simp [handshakeNames, hs]
  · intro p hp
    simp [handshakeNames, hs, hp, str_inj]
  · intro p hp
    simp [handshakeNames, hs, hp]

example : handshakeNames
    { scheme := str "https", user := [], pass := none, host := str "origin.test", hostKind := 0, port := none,
      effPort := 443, path := str "/", query := none, fragment := none }
    (some { scheme := str "http", user := [], pass := none, host := str "proxy.test", hostKind := 0, port := some 3128,
            effPort := 3128, path := str "/", query := none, fragment := none }) = [str "origin.test"] := by
  decide +kernel

/-- a flag or root set on a request (builder `b`) reaches neither the session nor any sibling request:
    corollary of the settings refinement C16, in every reachable state of the `Arc` machine -/
theorem C14_scope (hist : List SOp) (b : Nat) (f : Field) (v : Nat) :
    (∀ s, (((Heap.exec {} hist).exec [.bldSet b f v]).step (.obsSession s)).2
            = ((Heap.exec {} hist).step (.obsSession s)).2) ∧
    (∀ b', b' ≠ b → (((Heap.exec {} hist).exec [.bldSet b f v]).step (.obsBuilder b')).2
            = ((Heap.exec {} hist).step (.obsBuilder b')).2) :=
  C16_request_isolated_heap hist [.bldSet b f v] b (by intro op hop; simp at hop; subst hop; rfl)


/-- Tie to the source: `BaseSettings::default()` as extracted on this run has both flags off, and
    the model's defaults are those values. -/
theorem C14_default_table :
    Consts.defaultAcceptInvalidCerts = false ∧ Consts.defaultAcceptInvalidHostnames = false ∧
    ({} : Scalars).acceptInvalidCerts = Consts.defaultAcceptInvalidCerts ∧
    ({} : Scalars).acceptInvalidHostnames = Consts.defaultAcceptInvalidHostnames := by decide

end Atto
