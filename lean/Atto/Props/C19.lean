/-
  Atto/Props/C19.lean — "Response data is delivered as it arrives; reading never waits for later
  bytes". Stated on the real pipeline model (`parseResponse` / `reads` over an arbitrary well-formed
  scripted transport `t`, constrained only through `flatT t`); what has not arrived yet is an
  ARBITRARY item list `rest` (typically a partial frame followed by `pause` = the peer is silent
  for ever), so none of the conclusions can depend on it.
-/
import Atto.Lemmas.BufViewChunked
import Atto.Lemmas.ExampleFacts
namespace Atto

local notation "L" => Consts.maxLineLen
local notation "CL" => Consts.chunkSizeLineLimit

/-- (9) sending returns as soon as the blank line ending the head has arrived: whatever follows
    (nothing yet, a stall, an error), `parse_response` returns the response — in particular it is
    never `blocked`. -/
theorem C19_send_returns (h : HeadS) (rest : List Item) (t : Transport) (cap mh : Nat) (m : Method)
    (f : Framing) (hwf : wfT t) (hcap : 0 < cap) (hh : h.WF L)
    (hmh : h.fields.length ≤ mh) (hms : h.fields.length ≤ Headers.maxSize)
    (hf : chooseFraming m h.code h.seen = .ok f)
    (hflat : flatT t = bytesI h.render ++ rest) :
    ∃ resp, parseResponse m mh cap t = .ok resp ∧ resp.status = h.code ∧
      resp.headers = h.seen.remove nameTE := by
  obtain ⟨r1, _, _, hp⟩ := parseResponse_of_head h hh rest t cap mh hwf hcap hmh hms hflat
  exact ⟨_, hp m f hf, rfl, rfl⟩

/-- non-vacuity: the peer pauses for ever right after the head -/
example := C19_send_returns Ex.headTE [.pause] (Ex.seg Ex.headTE.render ++ [.pause]) 8 100 .get
  .chunked (Ex.wfT_seg_append _ _ Ex.headTE_long (by decide)) (by decide) Ex.headTE_wf (by decide)
  (by decide) Ex.headTE_framing (Ex.flatT_seg_append _ _)

/-- (10) the data of every chunk that has arrived completely (with its CRLF) can be read without
    blocking, whatever comes next: while less than the payload of the complete chunks `cs` was
    delivered, a read with an empty buffer returns `Ok(0)` and any other read returns a non-empty
    piece of that payload. -/
theorem C19_chunked (h : HeadS) (cs : List ChunkS) (rest : List Item)
    (t : Transport) (cap maxBuf mh : Nat) (m : Method) (ns : List Nat)
    (hwf : wfT t) (hcap : 0 < cap) (hmb : 0 < maxBuf) (hh : h.WF L)
    (hcs : ∀ c ∈ cs, c.WF CL)
    (hmh : h.fields.length ≤ mh) (hms : h.fields.length ≤ Headers.maxSize)
    (hnb : bodyless m h.code = false) (hch : isChunked h.seen = true)
    (hflat : flatT t = bytesI (h.render ++ encChunks cs) ++ rest) :
    ∃ resp, parseResponse m mh cap t = .ok resp ∧
      let evs := (reads maxBuf ns resp.body).1
      ∀ i (hi : i < ns.length), (deliveredEv (evs.take i)).length < (payloadOf cs).length →
        (ns[i] = 0 → evs[i]? = some (.ok [])) ∧
        (0 < ns[i] → ∃ bs, evs[i]? = some (.ok bs) ∧ bs ≠ [] ∧ bs.length ≤ ns[i] ∧
                       deliveredEv (evs.take (i+1)) <+: payloadOf cs) ∧
        deliveredEv (evs.take i) <+: payloadOf cs := by
  obtain ⟨r1, hok, hfl, hp⟩ := parseResponse_framed h hh _ rest t cap mh hwf hcap hmh hms hflat
    (chooseFraming_chunked hnb hch)
  refine ⟨_, hp, fun i hi hlt => ?_⟩
  dsimp only [Body.new] at hlt ⊢
  obtain ⟨e, he, hpre, bs, rfl, hne, hle, hb⟩ :=
    (chRep_while rest maxBuf hmb).get_reads ns (chRep_fresh cs hcs rest r1 hok hfl) i hi hlt
  refine ⟨fun hn => ?_, fun hn => ⟨bs, he, hne hn, hle, ?_⟩, hpre⟩
  · rw [he, List.eq_nil_of_length_eq_zero (by omega : bs.length = 0)]
  · rw [deliveredEv_take_succ he]
    exact prefix_append_of_drop hpre hb

/-- non-vacuity: two complete chunks, then the first bytes of a third one, then silence -/
example := C19_chunked Ex.headTE Ex.chunks (bytesI (str "7\r\nab") ++ [.pause])
  (Ex.seg (Ex.headTE.render ++ encChunks Ex.chunks) ++ [.data (str "7\r\nab"), .pause]) 8 4 100 .get
  Ex.readSizes
  (Ex.wfT_seg_append _ _ (Ex.long Ex.headTE_long) (by decide +kernel)) (by decide) (by decide)
  Ex.headTE_wf Ex.chunks_wf (by decide) (by decide) rfl Ex.headTE_chunked (Ex.flatT_seg_append _ _)

/-- (11) `Content-Length` (`o = some n`, with `x` within the announced length) or close-delimited
    (`o = none`) body of which `x` has arrived, followed by ANYTHING (`rest`, typically `pause`):
    while fewer than `x.length` bytes were delivered, a read with an empty buffer returns `Ok(0)` and
    any other read returns a non-empty `Ok` — every byte that has arrived can be read without
    blocking. -/
theorem C19_length_close (h : HeadS) (x : Bytes) (o : Option Nat) (rest : List Item)
    (t : Transport) (cap maxBuf mh : Nat) (m : Method) (ns : List Nat)
    (hwf : wfT t) (hcap : 0 < cap) (hh : h.WF L)
    (hmh : h.fields.length ≤ mh) (hms : h.fields.length ≤ Headers.maxSize)
    (hnb : bodyless m h.code = false) (hch : isChunked h.seen = false)
    (hcl : isContentLength h.seen = .ok o) (hx : ∀ n, o = some n → x.length ≤ n)
    (hflat : flatT t = bytesI (h.render ++ x) ++ rest) :
    ∃ resp, parseResponse m mh cap t = .ok resp ∧
      let evs := (reads maxBuf ns resp.body).1
      ∀ i (hi : i < ns.length), (deliveredEv (evs.take i)).length < x.length →
        (ns[i] = 0 → evs[i]? = some (.ok [])) ∧
        (0 < ns[i] → ∃ bs, evs[i]? = some (.ok bs) ∧ bs ≠ [] ∧ bs.length ≤ ns[i]) := by
  cases o with
  | none =>
    obtain ⟨r1, hok, hfl, hp⟩ := parseResponse_framed h hh x rest t cap mh hwf hcap hmh hms hflat
      (chooseFraming_close hnb hch hcl)
    obtain ⟨y, rest', he⟩ := Exact.of_arrived_close hok hfl
    exact ⟨_, hp, arrived_run maxBuf ns he⟩
  | some n =>
    obtain ⟨r1, hok, hfl, hp⟩ := parseResponse_framed h hh x rest t cap mh hwf hcap hmh hms hflat
      (chooseFraming_length hnb hch hcl)
    obtain ⟨y, k, rest', he⟩ := Exact.of_arrived_length hok (hx n rfl) hfl
    exact ⟨_, hp, arrived_run maxBuf ns he⟩

/-- non-vacuity: `Content-Length: 11`, `hello` has arrived, then the peer is silent -/
example := C19_length_close Ex.headCL (str "hello") (some 11) [.pause]
  (Ex.seg (Ex.headCL.render ++ str "hello") ++ [.pause]) 8 4 100 .get
  Ex.readSizes
  (Ex.wfT_seg_append _ _ (Ex.long Ex.headCL_long) (by decide)) (by decide) Ex.headCL_wf (by decide)
  (by decide) rfl Ex.headCL_chunked Ex.headCL_cl Ex.hello_within (Ex.flatT_seg_append _ _)

/-- non-vacuity, close-delimited -/
example := C19_length_close Ex.headClose (str "hello") none [.pause]
  (Ex.seg2 (Ex.headClose.render ++ str "hello") ++ [.pause]) 8 4 100 .get
  Ex.readSizes
  (Ex.wfT_seg2_append _ _ (Ex.long Ex.headClose_long) (by decide)) (by decide) Ex.headClose_wf
  (by decide) (by decide) rfl Ex.headClose_chunked Ex.headClose_cl (fun _ h => nomatch h)
  (Ex.flatT_seg2_append _ _)

/-- (12) a single `BufReader::read` performs at most one transport read, and none while its own
    buffer holds data (so `Length` / `Close` reads, which are one `BufReader::read`, never wait for
    more than what one transport read returns). -/
theorem C19_one_pull (r : BufR) (n : Nat) :
    (r.buf ≠ [] → (r.read n).2.inner = r.inner) ∧
    ((r.read n).2.inner = r.inner ∨ ∃ k, (r.read n).2.inner = (r.inner.read k).2) := by
  unfold BufR.read BufR.fillBuf
  by_cases hb : r.buf = []
  · refine ⟨fun h => absurd hb h, ?_⟩
    by_cases hc : r.cap ≤ n
    · simp only [hb, hc, and_self, if_true]
      exact .inr ⟨n, rfl⟩
    · simp only [hb, hc, and_false, if_false, ne_eq, not_true_eq_false]
      right
      refine ⟨r.cap, ?_⟩
      rcases r.inner.read r.cap with ⟨res, t⟩
      cases res <;> simp [BufR.consume]
  · simp [hb, BufR.consume]

/-- non-vacuity: with buffered data the transport (here: a stall) is not touched and the read
    succeeds -/
example : (({ buf := [1, 2], cap := 8, inner := [.pause] } : BufR).read 5).1 = .ok [1, 2] := rfl
