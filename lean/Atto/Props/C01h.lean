/-
  Atto/Props/C01h.lean — the "bytes / write_to / text helpers" clause of C01 and the "convenience
  readers return Err" clause of C02.  `drain maxBuf sz body` models `Response::bytes()`,
  `write_to()` (an `io::copy` loop) and `text_utf8()` (`read_to_end`): read with a positive buffer
  size `sz` until `Ok(0)`, retrying Interrupted.  Stated on the real pipeline model exactly like
  `C01_chunked` etc.: `parseResponse` over an arbitrary well-formed scripted transport `t`
  (constrained only through `flatT t`), any BufReader capacity `cap > 0`, any chunk-buffer bound
  `maxBuf > 0`, and EVERY positive internal read size `sz` of the helper.
-/
import Atto.Lemmas.Drain
import Atto.Lemmas.ExampleFacts
namespace Atto

local notation "L" => Consts.maxLineLen
local notation "CL" => Consts.chunkSizeLineLimit

/-- (a) chunked framing: the helpers return exactly the concatenated chunk data (nothing of the
    framing, nothing of the garbage `trail` after the frame), whatever their buffer size. -/
theorem C01_drain_chunked (h : HeadS) (cs : List ChunkS) (last : LastS) (trail : List Item)
    (t : Transport) (cap maxBuf mh : Nat) (m : Method) (sz : Nat)
    (hwf : wfT t) (hcap : 0 < cap) (hmb : 0 < maxBuf) (hsz : 0 < sz) (hh : h.WF L)
    (hcs : ∀ c ∈ cs, c.WF CL) (hl : last.WF CL)
    (hmh : h.fields.length ≤ mh) (hms : h.fields.length ≤ Headers.maxSize)
    (hnb : bodyless m h.code = false) (hch : isChunked h.seen = true)
    (hflat : flatT t = bytesI (h.render ++ encChunks cs ++ last.enc) ++ trail) :
    ∃ resp, parseResponse m mh cap t = .ok resp ∧
      (drain maxBuf sz resp.body).1 = .ok (payloadOf cs) := by
  obtain ⟨r1, hok, hfl, hp⟩ := parseResponse_framed h hh _ trail t cap mh hwf hcap hmh hms
    (by rw [hflat, List.append_assoc]) (chooseFraming_chunked hnb hch)
  refine ⟨_, hp, ?_⟩
  refine Dr.drain_clean maxBuf sz hsz (chunked_clean_step last hl trail maxBuf hmb)
    (chClean_fresh cs hcs last trail r1 hok hfl) ?_
  have := Dr.payloadOf_length_le cs
  simp only [Body.new, Body.inner, hfl, List.length_append, bytesI_length]; omega

/-- non-vacuity: the data of `C01_chunked`'s example, helper buffer of 3 bytes -/
example := C01_drain_chunked Ex.headTE Ex.chunks Ex.last Ex.afterFrame
  Ex.chunkedT 8 4 100 .get
  3
  (Ex.wfT_seg_append _ _ (Ex.long (Ex.long Ex.headTE_long)) (by decide)) (by decide) (by decide)
  (by decide) Ex.headTE_wf Ex.chunks_wf Ex.last_wf (by decide) (by decide) rfl Ex.headTE_chunked
  (Ex.flatT_seg_append _ _)

/-- non-vacuity, with a trailer section behind the last-chunk (skipped: not part of the bytes) -/
example := C01_drain_chunked Ex.headTE Ex.chunks Ex.lastT Ex.afterFrame
  Ex.chunkedTrailersT 8 4 100 .get
  3
  (Ex.wfT_seg_append _ _ (Ex.long (Ex.long Ex.headTE_long)) (by decide)) (by decide) (by decide)
  (by decide) Ex.headTE_wf Ex.chunks_wf Ex.lastT_wf (by decide) (by decide) rfl Ex.headTE_chunked
  (Ex.flatT_seg_append _ _)

/-- (b) `Content-Length` framing: the helpers return exactly the `Content-Length` octets. -/
theorem C01_drain_length (h : HeadS) (body : Bytes) (trail : List Item)
    (t : Transport) (cap maxBuf mh : Nat) (m : Method) (sz : Nat)
    (hwf : wfT t) (hcap : 0 < cap) (hsz : 0 < sz) (hh : h.WF L)
    (hmh : h.fields.length ≤ mh) (hms : h.fields.length ≤ Headers.maxSize)
    (hnb : bodyless m h.code = false) (hch : isChunked h.seen = false)
    (hcl : isContentLength h.seen = .ok (some body.length))
    (hflat : flatT t = bytesI (h.render ++ body) ++ trail) :
    ∃ resp, parseResponse m mh cap t = .ok resp ∧
      (drain maxBuf sz resp.body).1 = .ok body := by
  obtain ⟨r1, hok, hfl, hp⟩ := parseResponse_framed h hh _ trail t cap mh hwf hcap hmh hms hflat
    (chooseFraming_length hnb hch hcl)
  refine ⟨_, hp, ?_⟩
  have hi := Exact.complete_length hok hfl
  exact Dr.drain_clean maxBuf sz hsz (clean_step maxBuf _ _ (.inl rfl)) hi hi.length_le

/-- non-vacuity: `Content-Length: 11`, body `hello world`, then garbage and a stall -/
example := C01_drain_length Ex.headCL Ex.body Ex.afterFrame
  Ex.lengthT 8 4 100 .get
  3
  (Ex.wfT_seg_append _ _ (Ex.long Ex.headCL_long) (by decide)) (by decide) (by decide)
  Ex.headCL_wf (by decide) (by decide) rfl Ex.headCL_chunked Ex.headCL_cl_body
  (Ex.flatT_seg_append _ _)

/-- (c) close-delimited framing: the helpers return everything up to EOF. -/
theorem C01_drain_close (h : HeadS) (body : Bytes)
    (t : Transport) (cap maxBuf mh : Nat) (m : Method) (sz : Nat)
    (hwf : wfT t) (hcap : 0 < cap) (hsz : 0 < sz) (hh : h.WF L)
    (hmh : h.fields.length ≤ mh) (hms : h.fields.length ≤ Headers.maxSize)
    (hnb : bodyless m h.code = false) (hch : isChunked h.seen = false)
    (hcl : isContentLength h.seen = .ok none)
    (hflat : flatT t = bytesI (h.render ++ body)) :
    ∃ resp, parseResponse m mh cap t = .ok resp ∧
      (drain maxBuf sz resp.body).1 = .ok body := by
  obtain ⟨r1, hok, hfl, hp⟩ := parseResponse_framed_end h hh body t cap mh hwf hcap hmh hms hflat
    (chooseFraming_close hnb hch hcl)
  refine ⟨_, hp, ?_⟩
  have hi := Exact.complete_close hok hfl
  exact Dr.drain_clean maxBuf sz hsz (clean_step maxBuf _ _ (.inr ⟨rfl, rfl⟩)) hi hi.length_le

/-- non-vacuity: an HTTP/1.0 404 without framing headers, body up to EOF -/
example := C01_drain_close Ex.headClose Ex.body
  Ex.closeT 8 4 100 .get
  3
  (Ex.wfT_seg _ Ex.headClose_body_long) (by decide) (by decide)
  Ex.headClose_wf (by decide) (by decide) rfl Ex.headClose_chunked Ex.headClose_cl
  (Ex.flatT_seg _)

/-- The three complete framings of (a)–(c), as one hypothesis on the head and the flat stream. -/
def CompleteFrame (h : HeadS) (t : Transport) : Prop :=
  (∃ (cs : List ChunkS) (last : LastS) (trail : List Item),
      (∀ c ∈ cs, c.WF CL) ∧ last.WF CL ∧ isChunked h.seen = true ∧
      flatT t = bytesI (h.render ++ encChunks cs ++ last.enc) ++ trail) ∨
  (∃ (body : Bytes) (trail : List Item),
      isChunked h.seen = false ∧ isContentLength h.seen = .ok (some body.length) ∧
      flatT t = bytesI (h.render ++ body) ++ trail) ∨
  (∃ body : Bytes,
      isChunked h.seen = false ∧ isContentLength h.seen = .ok none ∧
      flatT t = bytesI (h.render ++ body))

/-- (d) the helpers' internal buffer sizes do not matter: for the three complete framings two
    helpers with any positive read sizes `sz1`, `sz2` (`io::copy`'s 8 KiB stack buffer,
    `read_to_end`'s adaptive probes, …) return the same bytes. -/
theorem C01_drain_size_indep (h : HeadS) (t : Transport) (cap maxBuf mh : Nat) (m : Method)
    (sz1 sz2 : Nat)
    (hwf : wfT t) (hcap : 0 < cap) (hmb : 0 < maxBuf) (hsz1 : 0 < sz1) (hsz2 : 0 < sz2)
    (hh : h.WF L) (hmh : h.fields.length ≤ mh) (hms : h.fields.length ≤ Headers.maxSize)
    (hnb : bodyless m h.code = false) (hfr : CompleteFrame h t) :
    ∃ resp, parseResponse m mh cap t = .ok resp ∧
      (drain maxBuf sz1 resp.body).1 = (drain maxBuf sz2 resp.body).1 ∧
      ∃ bs, (drain maxBuf sz1 resp.body).1 = .ok bs := by
  -- a helper that returns the same bytes for every positive read size does so for `sz1` and `sz2`
  have key : ∀ P : Bytes, (∀ sz, 0 < sz → ∃ resp, parseResponse m mh cap t = .ok resp ∧
      (drain maxBuf sz resp.body).1 = .ok P) →
      ∃ resp, parseResponse m mh cap t = .ok resp ∧
        (drain maxBuf sz1 resp.body).1 = (drain maxBuf sz2 resp.body).1 ∧
        ∃ bs, (drain maxBuf sz1 resp.body).1 = .ok bs := by
    intro P hP
    obtain ⟨r1, hp1, hd1⟩ := hP sz1 hsz1
    obtain ⟨r2, hp2, hd2⟩ := hP sz2 hsz2
    rw [hp1] at hp2
    cases hp2
    exact ⟨r1, hp1, by rw [hd1, hd2], _, hd1⟩
  rcases hfr with ⟨cs, last, trail, hcs, hl, hch, hflat⟩ | ⟨body, trail, hch, hcl, hflat⟩ |
      ⟨body, hch, hcl, hflat⟩
  · exact key _ fun sz hsz => C01_drain_chunked h cs last trail t cap maxBuf mh m sz
      hwf hcap hmb hsz hh hcs hl hmh hms hnb hch hflat
  · exact key _ fun sz hsz => C01_drain_length h body trail t cap maxBuf mh m sz
      hwf hcap hsz hh hmh hms hnb hch hcl hflat
  · exact key _ fun sz hsz => C01_drain_close h body t cap maxBuf mh m sz
      hwf hcap hsz hh hmh hms hnb hch hcl hflat

/-- non-vacuity: the chunked example read with a 1-byte and with an 8 KiB helper buffer -/
example := C01_drain_size_indep Ex.headTE
  Ex.chunkedT 8 4 100 .get
  1 8192
  (Ex.wfT_seg_append _ _ (Ex.long (Ex.long Ex.headTE_long)) (by decide)) (by decide) (by decide)
  (by decide) (by decide) Ex.headTE_wf (by decide) (by decide) rfl
  (.inl ⟨Ex.chunks, Ex.last, Ex.afterFrame, Ex.chunks_wf, Ex.last_wf, Ex.headTE_chunked,
    Ex.flatT_seg_append _ _⟩)

/-- non-vacuity of the other two disjuncts of `CompleteFrame` -/
example : CompleteFrame Ex.headCL (Ex.seg (Ex.headCL.render ++ Ex.body) ++ [.data [7], .pause]) :=
  .inr (.inl ⟨Ex.body, Ex.afterFrame, Ex.headCL_chunked, Ex.headCL_cl_body,
    Ex.flatT_seg_append _ _⟩)
example : CompleteFrame Ex.headClose (Ex.seg (Ex.headClose.render ++ Ex.body)) :=
  .inr (.inr ⟨Ex.body, Ex.headClose_chunked, Ex.headClose_cl, Ex.flatT_seg _⟩)

/-- (e) a chunked body cut strictly inside a chunk or inside the last-chunk (then EOF, a
    non-Interrupted I/O error followed by anything, or a stall): `bytes()` / `write_to()` /
    `text()` fail — the result is an error or a stall, never `Ok`, and the loop neither panics nor
    runs out of fuel. -/
theorem C02_drain_chunked_cut (h : HeadS) (cs : List ChunkS) (part : Bytes) (tailItems : List Item)
    (t : Transport) (cap maxBuf mh : Nat) (m : Method) (sz : Nat)
    (hwf : wfT t) (hcap : 0 < cap) (hmb : 0 < maxBuf) (hsz : 0 < sz) (hh : h.WF L)
    (hcs : ∀ c ∈ cs, c.WF CL)
    (hmh : h.fields.length ≤ mh) (hms : h.fields.length ≤ Headers.maxSize)
    (hnb : bodyless m h.code = false) (hch : isChunked h.seen = true)
    (hp : (∃ c : ChunkS, c.WF CL ∧ part.length < c.enc.length ∧ part <+: c.enc) ∨
          (∃ l : LastS, l.WF CL ∧ part.length < l.enc.length ∧ part <+: l.enc))
    (ht : tailItems = [] ∨ (∃ k r, k ≠ 0 ∧ tailItems = .err k :: r) ∨
          (∃ r, tailItems = .pause :: r))
    (hflat : flatT t = bytesI (h.render ++ encChunks cs ++ part) ++ tailItems) :
    ∃ resp, parseResponse m mh cap t = .ok resp ∧
      ((∃ e, (drain maxBuf sz resp.body).1 = .err e) ∨ (drain maxBuf sz resp.body).1 = .blocked) ∧
      (∀ bs, (drain maxBuf sz resp.body).1 ≠ .ok bs) ∧
      (drain maxBuf sz resp.body).1 ≠ .panic := by
  obtain ⟨r1, hok, hfl, hpr⟩ := parseResponse_framed h hh _ tailItems t cap mh hwf hcap hmh hms
    (by rw [hflat, List.append_assoc]) (chooseFraming_chunked hnb hch)
  refine ⟨_, hpr, ?_⟩
  have hbad : (drain maxBuf sz (Body.new .chunked r1)).1.Bad :=
    Dr.drain_chunked_cut maxBuf sz hsz r1 hok hmb cs hcs part tailItems hp ht hfl
  refine ⟨hbad, fun bs => hbad.ne_ok bs, ?_⟩
  rcases hbad with ⟨e, he⟩ | he <;> rw [he] <;> simp

/-- non-vacuity: one complete chunk, the second one cut after 9 of its 16 bytes, then a
    connection reset (kind 104) after which the script would even deliver more bytes -/
example := C02_drain_chunked_cut Ex.headTE [Ex.chunks[0]] Ex.resetPart
  Ex.resetTail
  Ex.resetT 8 4 100 .get
  3
  (Ex.wfT_seg_append _ _ (Ex.long (Ex.long Ex.headTE_long)) (by decide)) (by decide) (by decide)
  (by decide) Ex.headTE_wf Ex.chunk0_wf
  (by decide) (by decide) rfl Ex.headTE_chunked
  (.inl Ex.resetPart_in_chunk)
  (.inr (.inl Ex.resetTail_err))
  (Ex.flatT_seg_append _ _)

/-- (f) `Content-Length: n` but the connection is closed after `pre`, fewer than `n` bytes: the
    helpers return `UnexpectedEof` (the bytes of `pre` they had collected are dropped). -/
theorem C02_drain_length_cut (h : HeadS) (pre : Bytes) (n : Nat)
    (t : Transport) (cap maxBuf mh : Nat) (m : Method) (sz : Nat)
    (hwf : wfT t) (hcap : 0 < cap) (hsz : 0 < sz) (hh : h.WF L)
    (hmh : h.fields.length ≤ mh) (hms : h.fields.length ≤ Headers.maxSize)
    (hnb : bodyless m h.code = false) (hch : isChunked h.seen = false)
    (hcl : isContentLength h.seen = .ok (some n)) (hpre : pre.length < n)
    (hflat : flatT t = bytesI (h.render ++ pre)) :
    ∃ resp, parseResponse m mh cap t = .ok resp ∧
      (drain maxBuf sz resp.body).1 = .err .eof := by
  obtain ⟨r1, hok, hfl, hp⟩ := parseResponse_framed_end h hh pre t cap mh hwf hcap hmh hms hflat
    (chooseFraming_length hnb hch hcl)
  refine ⟨_, hp, ?_⟩
  exact Dr.drain_cut maxBuf sz hsz (Exact.cut hok hpre hfl) (Nat.sub_pos_of_lt hpre)

/-- non-vacuity: `Content-Length: 11` but only `hello` arrives before the connection closes -/
example := C02_drain_length_cut Ex.headCL (str "hello") 11
  Ex.lengthShortT 8 4 100 .get
  3
  (Ex.wfT_seg _ (Ex.long Ex.headCL_long)) (by decide) (by decide) Ex.headCL_wf (by decide) (by decide)
  rfl Ex.headCL_chunked Ex.headCL_cl Ex.hello_short (Ex.flatT_seg _)

end Atto
