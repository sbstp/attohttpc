/-
  Atto/Props/C03.lean — property C03: the body framing is chosen by RFC 9112 §6.3 and bad
  `Content-Length` values are refused, never guessed.
    (a) `parse_content_length` accepts exactly `1*DIGIT` that fits 64 bits, with its decimal value;
    (b) HEAD / 1xx / 204 / 304: empty body whatever the headers say, nothing is read;
    (c) `Transfer-Encoding: chunked` wins over any `Content-Length`;
    (d) one or several identical valid `Content-Length` values give that length;
    (e) an invalid value or two differing values are refused;
    (f) neither: read until close;
    (g) these cases are exhaustive.
  Spec side: Atto/Spec/FramingSpec.lean.  Helper lemmas: Atto/Lemmas/Framing.lean.
-/
import Atto.Lemmas.Framing
namespace Atto
open Atto.Framing

/-! ### (a) `parse_content_length` -/

theorem C03_parse_content_length (v : Bytes) :
    ((∃ n, parseContentLength v = some n) ↔ validCL v) ∧
    (∀ n, parseContentLength v = some n → n = decValue v) := by
  refine ⟨⟨?_, ?_⟩, ?_⟩
  · rintro ⟨n, h⟩; exact ((parseContentLength_iff v n).mp h).1
  · intro h; exact ⟨decValue v, (parseContentLength_iff v _).mpr ⟨h, rfl⟩⟩
  · intro n h; exact ((parseContentLength_iff v n).mp h).2

-- accepted
example : validCL (str "0") ∧ decValue (str "0") = 0 := by decide +kernel
example : parseContentLength (str "0") = some 0 := by decide +kernel
example : parseContentLength (str "03") = some 3 := by decide +kernel
example : parseContentLength (str "18446744073709551615") = some 18446744073709551615 := by
  decide +kernel
example : parseContentLength [48, 51] = some 3 := by decide
example : 3 = decValue [48, 51] := (C03_parse_content_length [48, 51]).2 3 (by decide)
example : validCL [48, 51] := (C03_parse_content_length [48, 51]).1.mp ⟨3, by decide⟩
-- refused
example : parseContentLength (str "+3") = none := by decide +kernel
example : parseContentLength (str "-3") = none := by decide +kernel
example : parseContentLength (str "") = none := by decide +kernel
example : parseContentLength (str "3x") = none := by decide +kernel
example : parseContentLength (str " 3") = none := by decide +kernel
example : parseContentLength (str "18446744073709551616") = none := by decide +kernel
example : parseContentLength [43, 51] = none := by decide
example : ¬ validCL [43, 51] := fun h => by
  obtain ⟨n, hn⟩ := (C03_parse_content_length [43, 51]).1.mpr h
  have e : parseContentLength [43, 51] = none := by decide
  rw [e] at hn; cases hn

/-! ### (b) bodyless responses -/

theorem C03_bodyless (m : Method) (status : Nat) (hs : Headers) :
    bodyless m status = true → chooseFraming m status hs = .ok (.length 0) := by
  intro h; simp [chooseFraming, h]

/-- HEAD with `Content-Length: +3x` and `Transfer-Encoding: chunked`: still an empty body. -/
example : chooseFraming .head 200
    [(str "content-length", str "+3x"), (str "transfer-encoding", str "chunked")]
      = .ok (.length 0) :=
  C03_bodyless _ _ _ (by decide)
example : chooseFraming .get 304
    [(str "content-length", str "+3x"), (str "transfer-encoding", str "chunked")]
      = .ok (.length 0) := by with_unfolding_all rfl

theorem C03_bodyless_iff (m : Method) (status : Nat) :
    bodyless m status = true ↔
      (m = .head ∨ (100 ≤ status ∧ status < 200) ∨ status = 204 ∨ status = 304) := by
  simp [bodyless, or_assoc]

example : bodyless .head 200 = true ∧ bodyless .get 101 = true ∧ bodyless .post 204 = true ∧
    bodyless .get 304 = true ∧ bodyless .get 200 = false ∧ bodyless .get 99 = false := by decide

/-- `BodyReader::new` for the empty framing. -/
theorem C03_bodyless_new (r : BufR) : Body.new (.length 0) r = Body.length r 0 := rfl

/-- Every read of an empty-framed body returns no byte and leaves the connection untouched. -/
theorem C03_bodyless_reads (r : BufR) (maxBuf n : Nat) :
    ((Body.length r 0).read maxBuf n) = (.ok [], Body.length r 0) := by
  simp [Body.read]

/-- Bytes are waiting (buffered and on the wire); none is delivered and the reader is unchanged. -/
example :
    let r : BufR := { buf := [72, 84], cap := 8, inner := [.data [84, 80]] }
    (Body.new (.length 0) r).read 16 4 = (.ok [], Body.length r 0) :=
  C03_bodyless_reads _ _ _

/-! ### (c) `Transfer-Encoding: chunked` -/

theorem C03_chunked_wins {m : Method} {s : Nat} {hs : Headers} :
    bodyless m s = false → isChunked hs = true → chooseFraming m s hs = .ok .chunked := by
  exact chooseFraming_chunked

/-- Chunked wins over a valid and over an invalid `Content-Length`. -/
example : chooseFraming .get 200
    [(str "content-length", str "5"), (str "transfer-encoding", str "chunked")] = .ok .chunked :=
  C03_chunked_wins (by decide) (by decide +kernel)
example : chooseFraming .get 200
    [(str "content-length", str "-5"), (str "transfer-encoding", str "chunked")] = .ok .chunked :=
  C03_chunked_wins (by decide) (by decide +kernel)

theorem C03_is_chunked_iff (hs : Headers) :
    isChunked hs = true ↔
      ∃ v ∈ hs.getAll nameTE, (∀ b ∈ v, isVisibleAscii b = true) ∧
        ∃ tok ∈ splitOnByte 44 v, lowerBytes (strTrim tok) = str "chunked" :=
  -- `is_chunked` is `have_encoding_item` on `Transfer-Encoding` and `chunked`
  haveEncodingIn_iff hs nameTE (str "chunked") lower_chunked

/-- In particular when `chunked` is the last coding of some `Transfer-Encoding` field. -/
theorem C03_is_chunked_last {hs : Headers} {v tok : Bytes} :
    v ∈ hs.getAll nameTE → (∀ b ∈ v, isVisibleAscii b = true) →
    (splitOnByte 44 v).getLast? = some tok → lowerBytes (strTrim tok) = str "chunked" →
    isChunked hs = true := by
  intro hv hvis hlast htok
  exact (C03_is_chunked_iff hs).mpr ⟨v, hv, hvis, tok, List.mem_of_getLast? hlast, htok⟩

example : isChunked [(str "transfer-encoding", str "gzip, Chunked")] = true := by decide +kernel
example : isChunked [(str "transfer-encoding", str "gzip"),
    (str "content-type", str "chunked"), (str "transfer-encoding", str "CHUNKED ,x")] = true := by
  decide +kernel
example : isChunked [(str "transfer-encoding", str "gzip, xchunked")] = false := by decide +kernel
example : isChunked [(str "transfer-encoding", str "gzip, Chunked")] = true :=
  C03_is_chunked_last (v := str "gzip, Chunked") (tok := str " Chunked")
    (by decide +kernel) (by decide +kernel) (by decide +kernel) (by decide +kernel)

/-! ### (d) `Content-Length` -/

theorem C03_length {m : Method} {s : Nat} {hs : Headers} {n : Nat} :
    bodyless m s = false → isChunked hs = false → hs.getAll nameCL ≠ [] →
    (∀ v ∈ hs.getAll nameCL, validCL v ∧ decValue v = n) →
    chooseFraming m s hs = .ok (.length n) := by
  intro hb hc hne hall
  rw [chooseFraming_cl hb hc, isContentLength, loop_length hne hall]

example : chooseFraming .get 200 [(str "content-length", str "42")] = .ok (.length 42) := by
  with_unfolding_all rfl
/-- Two identical values (up to leading zeros). -/
example : chooseFraming .get 200
    [(str "content-length", str "42"), (str "host", str "x"), (str "content-length", str "042")]
      = .ok (.length 42) := by
  apply C03_length (by decide) (by decide +kernel) (by decide +kernel)
  intro v hv
  have h : v = str "42" ∨ v = str "042" := by
    have e : Headers.getAll [(str "content-length", str "42"), (str "host", str "x"),
        (str "content-length", str "042")] nameCL = [str "42", str "042"] := by decide +kernel
    rw [e] at hv; simpa using hv
  rcases h with rfl | rfl <;> decide +kernel

/-! ### (e) refusal -/

theorem C03_refuse {m : Method} {s : Nat} {hs : Headers} :
    bodyless m s = false → isChunked hs = false →
    ((∃ v ∈ hs.getAll nameCL, ¬ validCL v) ∨
      (∃ v w, v ∈ hs.getAll nameCL ∧ w ∈ hs.getAll nameCL ∧ validCL v ∧ validCL w ∧
        decValue v ≠ decValue w)) →
    chooseFraming m s hs = .error .contentLength := by
  intro hb hc h
  rw [chooseFraming_cl hb hc, isContentLength, loop_refuse h]

/-- An invalid value next to a valid one. -/
example : chooseFraming .get 200
    [(str "content-length", str "42"), (str "content-length", str "+42")]
      = .error .contentLength :=
  C03_refuse (by decide) (by decide +kernel)
    (Or.inl ⟨str "+42", by decide +kernel, by decide +kernel⟩)
/-- Two valid values that differ. -/
example : chooseFraming .get 200
    [(str "content-length", str "42"), (str "content-length", str "43")]
      = .error .contentLength :=
  C03_refuse (by decide) (by decide +kernel)
    (Or.inr ⟨str "42", str "43", by decide +kernel, by decide +kernel, by decide +kernel,
      by decide +kernel, by decide +kernel⟩)
/-- A value that is not visible ASCII (`to_str` fails) is not `1*DIGIT` either. -/
example : ¬ validCL [51, 200] ∧ chooseFraming .get 200 [(nameCL, [51, 200])]
    = .error .contentLength := ⟨by decide, by with_unfolding_all rfl⟩

/-! ### (f) read until close -/

theorem C03_close {m : Method} {s : Nat} {hs : Headers} :
    bodyless m s = false → isChunked hs = false → hs.getAll nameCL = [] →
    chooseFraming m s hs = .ok .close := by
  intro hb hc he
  rw [chooseFraming_cl hb hc, isContentLength, he]; rfl

example : chooseFraming .get 200 [(str "content-type", str "text/plain")] = .ok .close :=
  C03_close (by decide) (by decide +kernel) (by decide +kernel)

/-! ### (g) the cases are exhaustive -/

theorem C03_total (m : Method) (s : Nat) (hs : Headers) :
    (bodyless m s = true ∧ chooseFraming m s hs = .ok (.length 0)) ∨
    (bodyless m s = false ∧ isChunked hs = true ∧ chooseFraming m s hs = .ok .chunked) ∨
    (bodyless m s = false ∧ isChunked hs = false ∧ hs.getAll nameCL ≠ [] ∧
      ∃ n, (∀ v ∈ hs.getAll nameCL, validCL v ∧ decValue v = n) ∧
        chooseFraming m s hs = .ok (.length n)) ∨
    (bodyless m s = false ∧ isChunked hs = false ∧
      ((∃ v ∈ hs.getAll nameCL, ¬ validCL v) ∨
        (∃ v w, v ∈ hs.getAll nameCL ∧ w ∈ hs.getAll nameCL ∧ validCL v ∧ validCL w ∧
          decValue v ≠ decValue w)) ∧
      chooseFraming m s hs = .error .contentLength) ∨
    (bodyless m s = false ∧ isChunked hs = false ∧ hs.getAll nameCL = [] ∧
      chooseFraming m s hs = .ok .close) := by
  cases hb : bodyless m s with
  | true => exact Or.inl ⟨rfl, C03_bodyless m s hs hb⟩
  | false =>
    cases hc : isChunked hs with
    | true => exact Or.inr (Or.inl ⟨rfl, rfl, C03_chunked_wins hb hc⟩)
    | false =>
      rcases cl_cases (hs.getAll nameCL) with he | ⟨hne, n, hall⟩ | href
      · exact Or.inr (Or.inr (Or.inr (Or.inr ⟨rfl, rfl, he, C03_close hb hc he⟩)))
      · exact Or.inr (Or.inr (Or.inl ⟨rfl, rfl, hne, n, hall, C03_length hb hc hne hall⟩))
      · exact Or.inr (Or.inr (Or.inr (Or.inl ⟨rfl, rfl, href, C03_refuse hb hc href⟩)))

/-- Instance: no header at all on a 200 to a GET lands in the last case. -/
example : chooseFraming .get 200 [] = .ok .close := by
  rcases C03_total .get 200 [] with ⟨hbodyless, _⟩ | ⟨_, hchunked, _⟩ | ⟨_, _, hcl, _⟩ |
    ⟨_, _, hbad, _⟩ | ⟨_, _, _, h⟩
  · exact absurd hbodyless (by decide)
  · exact absurd hchunked (by decide +kernel)
  · exact absurd hcl (by decide +kernel)
  · rcases hbad with ⟨v, hv, _⟩ | ⟨v, _, hv, _⟩ <;> simp [Headers.getAll] at hv
  · exact h

end Atto
