/-
  Atto/Props/C10.lean — property C10: "every redirect hop is a faithful, self-consistent replay".
  About `send s req cap url hops` for arbitrary `hops`, arbitrary proxy settings; `u_i` is the
  `i`-th element of `urlsVisited` (see C09: `u_0` = the caller's URL, `u_{i+1}` = what hop `i`'s
  `Location` resolved to).  A hop on which the CONNECT-tunnel branch is taken (`rd_tunnels s u_i`)
  writes only the CONNECT head before TLS starts and is excluded from (g), (h).
    (g) every hop writes the same method and — for a rewindable body — the same body;
        for a one-shot body (a caller's `Body` whose `write` works only once — every body kind the
        library ships, multipart included since fix a131285, can be written again) the replay cannot
        be faithful: proved here, so that the hypothesis of (g) is visibly necessary;
    (h) every hop sends the caller's header fields unchanged, and exactly one `Host`, naming
        hop i's own authority (the proxy's for plain http through a proxy);
    (i) the proxy decision is re-evaluated for every hop's URL.
  Helper lemmas: Atto/Lemmas/Redirect.lean; example data: Atto/Lemmas/RedirectExamples.lean.
-/
import Atto.Lemmas.Redirect
import Atto.Lemmas.RedirectExamples
namespace Atto
open Atto.Rd Atto.RdEx

/-! ### (i) proxy re-evaluation -/

/-- The dial target of hop `i` is `(s.proxy.forUrl u_i).getD u_i`: the proxy that `for_url` selects
    for THAT hop's URL, or the URL's own host. Holds for tunnel hops as well. -/
theorem C10_proxy_reeval (s : SendSettings) (req : Req) (cap : Nat) (url : Url) (hops : List Hop)
    (i : Nat) (out : HopOut) :
    (send s req cap url hops).1[i]? = some out →
    ∃ u, (urlsVisited s req cap url hops)[i]? = some u ∧
      out.dialScheme = ((s.proxy.forUrl u).getD u).scheme ∧
      out.dialHost = ((s.proxy.forUrl u).getD u).host ∧
      out.dialPort = ((s.proxy.forUrl u).getD u).effPort := by
  intro h
  obtain ⟨u, hin, hop, hu, _, _, rfl⟩ := send_outs h
  exact ⟨u, hu, rd_obs_dial s req cap hop u hin _⟩

/-- Proxy for plain http except host `b`; chain a → b → c: proxy, direct, proxy. -/
example : (send rx_settingsProxy rx_req 64 rx_a rx_chain).1.map (fun o => (o.dialHost, o.dialPort)) =
    [(str "proxy", 3128), (str "b", 80), (str "proxy", 3128)] := by
  rw [rx_run_chainProxy.1]; rfl
example (out : HopOut) (h : (send rx_settingsProxy rx_req 64 rx_a rx_chain).1[1]? = some out) :
    out.dialHost = str "b" := by
  obtain ⟨u, hu, _, hh, _⟩ := C10_proxy_reeval rx_settingsProxy rx_req 64 rx_a rx_chain 1 out h
  rw [rx_run_chainProxy.2] at hu; cases hu
  rw [hh]; decide +kernel

/-! ### (h) headers -/

/-- The header map written on hop `i` (`hdrs_i = rd_hopHdrs s hin u_i`, where `hin` is the map left
    by the previous hop): every field other than `Host` is the caller's (all values, in order —
    including the framing headers `try_prepare` chose); there is exactly one `Host` value: the
    authority of the proxy for plain http through a proxy, of `u_i` otherwise. -/
theorem C10_headers_kept (s : SendSettings) (req : Req) (cap : Nat) (url : Url) (hops : List Hop)
    (i : Nat) (out : HopOut) :
    (send s req cap url hops).1[i]? = some out →
    ∃ u hin, (urlsVisited s req cap url hops)[i]? = some u ∧
      (hdrsVisited s req cap url hops)[i]? = some hin ∧
      (rd_tunnels s u = false →
        out.wrote = writeRequest req.method u (rd_plainViaProxy s u) (rd_hopHdrs s hin u)
          (rd_body req (i == 0))) ∧
      (∀ m, m ≠ hName "host" → (rd_hopHdrs s hin u).getAll m = req.headers.getAll m) ∧
      (rd_hopHdrs s hin u).getAll (hName "host") =
        [(if rd_plainViaProxy s u = true then (s.proxy.forUrl u).getD u else u).authority] := by
  intro h
  obtain ⟨u, hin, hop, h1, h2, _, rfl⟩ := send_outs h
  refine ⟨u, hin, h1, h2, ?_, ?_, ?_⟩
  · intro ht; rw [rd_obs_plain ht]; rfl
  · intro m hm
    rw [rd_hopHdrs_eq, rd_hdrsSeq_setHost s _ _ i hin h2, rq_getAll_setHost, if_neg hm]
  · rw [rd_hopHdrs_eq, rq_getAll_setHost, if_pos rfl, rd_hostUrl_eq]; rfl

/-- When is it "plain http through a proxy". -/
theorem C10_plainViaProxy_iff (s : SendSettings) (u : Url) :
    rd_plainViaProxy s u = true ↔ u.scheme = str "http" ∧ ∃ p, s.proxy.forUrl u = some p := by
  simp [rd_plainViaProxy, Option.isSome_iff_exists]

/-- a → b → c without proxy: the three header blocks differ in `Host` only (no stale `Host` of the
    previous hop), the caller's `x-caller` and `content-length` are there each time. -/
example : (send (rx_settings true 5) rx_req 64 rx_a rx_chain).1.map (·.wrote) =
    [str "POST /1 HTTP/1.1\r\naccept: */*\r\nx-caller: 1\r\ncontent-length: 3\r\nhost: a\r\n\r\nabc",
     str "POST /2 HTTP/1.1\r\naccept: */*\r\nx-caller: 1\r\ncontent-length: 3\r\nhost: b\r\n\r\nabc",
     str "POST /3 HTTP/1.1\r\naccept: */*\r\nx-caller: 1\r\ncontent-length: 3\r\nhost: c\r\n\r\nabc"] := by
  rw [rx_run_chain.1]; rfl
/-- With the proxy that excludes `b`: `Host` names the proxy on hops 0 and 2, and `b` on hop 1. -/
example : (send rx_settingsProxy rx_req 64 rx_a rx_chain).1.map (·.wrote) =
    [str "POST http://a/1 HTTP/1.1\r\naccept: */*\r\nx-caller: 1\r\ncontent-length: 3\r\nhost: proxy:3128\r\n\r\nabc",
     str "POST /2 HTTP/1.1\r\naccept: */*\r\nx-caller: 1\r\ncontent-length: 3\r\nhost: b\r\n\r\nabc",
     str "POST http://c/3 HTTP/1.1\r\naccept: */*\r\nx-caller: 1\r\ncontent-length: 3\r\nhost: proxy:3128\r\n\r\nabc"] := by
  rw [rx_run_chainProxy.1]; rfl
example (out : HopOut) (h : (send rx_settingsProxy rx_req 64 rx_a rx_chain).1[2]? = some out) :
    ∃ hdrs, out.wrote = writeRequest (str "POST") rx_c true hdrs rx_body ∧
      hdrs.getAll (str "x-caller") = [str "1"] ∧ hdrs.getAll (str "host") = [str "proxy:3128"] := by
  obtain ⟨u, hin, hu, _, hw, hk, hh⟩ := C10_headers_kept rx_settingsProxy rx_req 64 rx_a rx_chain 2 out h
  rw [rx_run_chainProxy.2] at hu; cases hu
  refine ⟨rd_hopHdrs rx_settingsProxy hin rx_c, ?_, ?_, ?_⟩
  · rw [hw (by decide +kernel)]
    have e1 : rd_plainViaProxy rx_settingsProxy rx_c = true := by decide +kernel
    rw [e1]; rfl
  · rw [hk _ (by decide +kernel)]; decide +kernel
  · have : hName "host" = str "host" := rfl
    rw [← this, hh]; decide +kernel

/-! ### (g) method and body -/

/-- Rewindable body: every non-tunnel hop writes `req.method`, its own URL's target, and the whole
    of `req.body`; the written bytes end with the same `writeBody req.body` on every hop. -/
theorem C10_same_method_body (s : SendSettings) (req : Req) (cap : Nat) (url : Url) (hops : List Hop)
    (i : Nat) (out : HopOut) :
    req.bodyRewindable = true →
    (send s req cap url hops).1[i]? = some out →
    ∃ u hin, (urlsVisited s req cap url hops)[i]? = some u ∧
      (hdrsVisited s req cap url hops)[i]? = some hin ∧
      (rd_tunnels s u = false →
        out.wrote = writeRequest req.method u (rd_plainViaProxy s u) (rd_hopHdrs s hin u) req.body ∧
        ∃ head, out.wrote = req.method ++ [32] ++ head ++ writeBody req.body) := by
  intro hr h
  obtain ⟨u, hin, h1, h2, hw, _, _⟩ := C10_headers_kept s req cap url hops i out h
  refine ⟨u, hin, h1, h2, ?_⟩
  intro ht
  have hb : rd_body req (i == 0) = req.body := by simp [rd_body, hr]
  have hw' := hw ht
  rw [hb] at hw'
  refine ⟨hw', ?_⟩
  refine ⟨requestTarget u (rd_plainViaProxy s u) ++ str " HTTP/1.1\r\n" ++
    writeHeaders (rd_hopHdrs s hin u), ?_⟩
  rw [hw']; simp [writeRequest, List.append_assoc]

/-- The first hop writes the whole body whatever its kind. -/
theorem C10_first_hop_body (s : SendSettings) (req : Req) (cap : Nat) (url : Url) (hops : List Hop)
    (out : HopOut) :
    (send s req cap url hops).1[0]? = some out → rd_tunnels s url = false →
    out.wrote = writeRequest req.method url (rd_plainViaProxy s url) (rd_hopHdrs s req.headers url)
      req.body := by
  intro h ht
  cases hops with
  | nil => cases h
  | cons hop rest =>
    unfold send at h
    obtain ⟨tail, f, hc⟩ := sendLoop_cons s req cap hop rest url 0 req.headers true
    rw [hc, rd_obs_plain ht] at h
    cases h
    simp [rd_plainOut, rd_body]

example (out : HopOut) (h : (send (rx_settings true 5) rx_req 64 rx_a rx_chain).1[1]? = some out) :
    ∃ head, out.wrote = str "POST" ++ [32] ++ head ++ str "abc" := by
  obtain ⟨u, hin, hu, _, hw⟩ := C10_same_method_body (rx_settings true 5) rx_req 64 rx_a rx_chain 1 out rfl h
  rw [rx_run_chain.2] at hu; cases hu
  obtain ⟨head, hh⟩ := (hw (rx_no_tunnel ..)).2
  have eb : writeBody rx_req.body = str "abc" := by decide +kernel
  rw [eb] at hh
  exact ⟨head, hh⟩

/-- One-shot body (`bodyRewindable = false`: a caller-defined `Body` that cannot be written twice; it
    was also the library's multipart body until fix a131285): from hop 1 on the request is written
    with the same head — including the framing header computed for the full body — but the body's
    `write` produces nothing. -/
theorem C10_oneshot_body (s : SendSettings) (req : Req) (cap : Nat) (url : Url) (hops : List Hop)
    (i : Nat) (out : HopOut) :
    req.bodyRewindable = false → 0 < i →
    (send s req cap url hops).1[i]? = some out →
    ∃ u hin, (urlsVisited s req cap url hops)[i]? = some u ∧
      (hdrsVisited s req cap url hops)[i]? = some hin ∧
      (rd_tunnels s u = false →
        out.wrote = writeRequest req.method u (rd_plainViaProxy s u) (rd_hopHdrs s hin u)
          { req.body with writes := [] }) := by
  intro hr hi h
  obtain ⟨u, hin, h1, h2, hw, _, _⟩ := C10_headers_kept s req cap url hops i out h
  refine ⟨u, hin, h1, h2, ?_⟩
  intro ht
  have hi0 : (i == 0) = false := by simp; omega
  have hb : rd_body req (i == 0) = { req.body with writes := [] } := by simp [rd_body, hr, hi0]
  rw [hw ht, hb]

/-- The full property "(g) for every body": every non-tunnel hop writes `req.body`. -/
def C10_same_method_body_full : Prop :=
  ∀ (s : SendSettings) (req : Req) (cap : Nat) (url : Url) (hops : List Hop) (i : Nat) (out : HopOut)
    (u : Url) (hin : Headers),
    (send s req cap url hops).1[i]? = some out →
    (urlsVisited s req cap url hops)[i]? = some u → (hdrsVisited s req cap url hops)[i]? = some hin →
    rd_tunnels s u = false →
    out.wrote = writeRequest req.method u (rd_plainViaProxy s u) (rd_hopHdrs s hin u) req.body

/-- The statement without the hypothesis `bodyRewindable = true` is FALSE (it was the known finding F9
    while the library's own multipart body was one-shot; it now concerns caller-defined bodies only). Witness: the one-shot
    3-byte body on the chain a → b → c; the request to `b` announces `content-length: 3` and
    carries no body byte. -/
theorem C10_full_refuted_oneshot : ¬ C10_same_method_body_full := by
  intro hfull
  have h := hfull (rx_settings true 5) rx_reqOneShot 64 rx_a rx_chain 1 _ rx_b
    (rd_hopHdrs (rx_settings true 5) rx_reqOneShot.headers rx_a)
    (by rw [rx_run_chainOneShot.1]; rfl) (by rw [rx_run_chainOneShot.2]; rfl)
    (by rw [hdrsVisited, rx_run_chainOneShot.2]; rfl) (rx_no_tunnel ..)
  revert h
  simp only [str_data]
  decide +kernel

example : (send (rx_settings true 5) rx_reqOneShot 64 rx_a rx_chain).1.map (·.wrote) =
    [str "POST /1 HTTP/1.1\r\naccept: */*\r\nx-caller: 1\r\ncontent-length: 3\r\nhost: a\r\n\r\nabc",
     str "POST /2 HTTP/1.1\r\naccept: */*\r\nx-caller: 1\r\ncontent-length: 3\r\nhost: b\r\n\r\n",
     str "POST /3 HTTP/1.1\r\naccept: */*\r\nx-caller: 1\r\ncontent-length: 3\r\nhost: c\r\n\r\n"] := by
  rw [rx_run_chainOneShot.1]; rfl
example (out : HopOut) (h : (send (rx_settings true 5) rx_reqOneShot 64 rx_a rx_chain).1[2]? = some out) :
    ∃ hdrs, out.wrote = writeRequest (str "POST") rx_c false hdrs { rx_body with writes := [] } := by
  obtain ⟨u, hin, hu, _, hw⟩ :=
    C10_oneshot_body (rx_settings true 5) rx_reqOneShot 64 rx_a rx_chain 2 out rfl (by decide) h
  rw [rx_run_chainOneShot.2] at hu; cases hu
  refine ⟨rd_hopHdrs (rx_settings true 5) hin rx_c, ?_⟩
  rw [hw (rx_no_tunnel ..)]
  have e1 : rd_plainViaProxy (rx_settings true 5) rx_c = false := by simp [rd_plainViaProxy, rx_no_proxy]
  rw [e1]; rfl

end Atto
