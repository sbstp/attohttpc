/-
  Atto/Props/C04.lean — "status code and header fields are reported exactly as sent", at the level
  of the real pipeline: the model of `BufReader<BaseStream>` over an ARBITRARY scripted transport `t`
  (any segmentation of the byte stream, any BufReader capacity `cap > 0`).
  Helper lemmas: Lemmas/Pipeline.lean, Lemmas/HeadFlat.lean, Lemmas/Sim.lean.
-/
import Atto.Lemmas.Pipeline
import Atto.Lemmas.Framing
import Atto.Lemmas.RqHeaders
namespace Atto

/-! ### example data for the non-vacuity checks -/

/-- `HTTP/1.1 200 OK` with a repeated field (different letter case, different padding). -/
def C04.exHead : HeadS :=
  { version := str "HTTP/1.1", sp1 := 1, code := 200, reason := str "OK",
    fields := [{ name := str "Set-Cookie", padL := 1, value := str "a=1", padR := 0 },
               { name := str "Transfer-Encoding", padL := 1, value := str "chunked", padR := 0 },
               { name := str "set-cookie", padL := 0, value := str "b=2", padR := 2 }] }

/-- the same head cut after 3 bytes, followed by something that is not part of the head -/
def C04.exT : Transport :=
  [.data (C04.exHead.render.take 3), .data (C04.exHead.render.drop 3), .err 5, .data [1, 2], .pause]

def C04.exRest : List Item := [.err 5, .byte 1, .byte 2, .pause]

theorem C04.exT_wf : wfT C04.exT := by decide +kernel
theorem C04.exHead_wf : C04.exHead.WF Consts.maxLineLen := by decide +kernel
theorem C04.exT_flat : flatT C04.exT = bytesI C04.exHead.render ++ C04.exRest := by
  simp only [C04.exT, flatT, bytesI]
  rw [← List.append_assoc, ← List.map_append, List.take_append_drop]; rfl
theorem C04.exHead_framing : chooseFraming .get C04.exHead.code C04.exHead.seen = .ok .chunked :=
  chooseFraming_chunked (by decide) (by decide +kernel)

/-! ### (h) the head, exactly -/

/-- (h) Whatever the segmentation of the transport and the BufReader capacity, a well-formed head
    is reported exactly (code, then every field in wire order, names lower-cased, values trimmed),
    and the reader is left exactly at the first byte after the head. -/
theorem C04_head_exact (h : HeadS) (rest : List Item) (t : Transport) (cap mh : Nat)
    (hw : wfT t) (hc : 0 < cap) (hwf : h.WF Consts.maxLineLen)
    (hmh : h.fields.length ≤ mh) (hcap : h.fields.length ≤ Headers.maxSize)
    (hflat : flatT t = bytesI h.render ++ rest) :
    ∃ r', parseResponseHead bufSrc { buf := [], cap := cap, inner := t } mh = (.ok (h.code, h.seen), r') ∧
      r'.flat = rest := by
  obtain ⟨r', h1, h2, _⟩ := head_of_flat t cap mh hw hc (hflat ▸ head_roundtrip h hwf rest mh hmh hcap)
  exact ⟨r', h1, h2⟩

example : wfT C04.exT ∧ 0 < 1 ∧ C04.exHead.WF Consts.maxLineLen ∧ C04.exHead.fields.length ≤ 3 ∧
    C04.exHead.fields.length ≤ Headers.maxSize ∧
    flatT C04.exT = bytesI C04.exHead.render ++ C04.exRest :=
  ⟨C04.exT_wf, by decide, C04.exHead_wf, by decide, by decide, C04.exT_flat⟩

/-- what the caller sees for the example: repeated fields in wire order -/
example : C04.exHead.seen =
    [(str "set-cookie", str "a=1"), (str "transfer-encoding", str "chunked"),
     (str "set-cookie", str "b=2")] := by decide +kernel

/-! ### (i) the response object -/

/-- `Transfer-Encoding` is hidden from the caller, every other field keeps its values in wire
    order (a repeated field stays repeated). -/
theorem C04_getAll_remove (hs : Headers) (n n' : Bytes) :
    Headers.getAll (hs.remove n) n' = if n' = n then [] else hs.getAll n' :=
  rq_getAll_remove hs n n'

example : Headers.getAll (C04.exHead.seen.remove nameTE) (str "set-cookie") = [str "a=1", str "b=2"] ∧
    Headers.getAll (C04.exHead.seen.remove nameTE) nameTE = [] := by decide +kernel

/-- (i) `parse_response` reports the status and the fields exactly as sent. -/
theorem C04_response (m : Method) (h : HeadS) (rest : List Item) (t : Transport) (cap mh : Nat)
    (f : Framing) (hw : wfT t) (hc : 0 < cap) (hwf : h.WF Consts.maxLineLen)
    (hmh : h.fields.length ≤ mh) (hcap : h.fields.length ≤ Headers.maxSize)
    (hflat : flatT t = bytesI h.render ++ rest)
    (hf : chooseFraming m h.code h.seen = .ok f) :
    ∃ resp, parseResponse m mh cap t = .ok resp ∧ resp.status = h.code ∧
      resp.headers = h.seen.remove nameTE ∧ resp.rawHeaders = h.seen ∧
      (∀ n, n ≠ nameTE → resp.headers.getAll n = h.seen.getAll n) ∧ resp.headers.getAll nameTE = [] ∧
      ∃ r', resp.body = Body.new f r' ∧ r'.flat = rest ∧ r'.Ok := by
  obtain ⟨r1, hok, hfl, hp⟩ := parseResponse_flat t cap mh hw hc
  rw [hflat, head_roundtrip h hwf rest mh hmh hcap] at hfl hp
  have hp := hp m
  simp only [hf] at hp
  exact ⟨_, hp, rfl, rfl, rfl, fun n hn => by simp [C04_getAll_remove, hn],
    by simp [C04_getAll_remove], r1, rfl, hfl, hok⟩

example : chooseFraming .get C04.exHead.code C04.exHead.seen = .ok .chunked := C04.exHead_framing

/-! ### (j) the `max_headers` bound is exact -/

/-- (j) one field more than `max_headers` is refused (and (h) says `max_headers` fields pass). -/
theorem C04_max_exact (h : HeadS) (rest : List Item) (t : Transport) (cap mh : Nat)
    (hw : wfT t) (hc : 0 < cap) (hwf : h.WF Consts.maxLineLen)
    (hmh : mh < h.fields.length) (hcap : mh ≤ Headers.maxSize)
    (hflat : flatT t = bytesI h.render ++ rest) :
    (parseResponseHead bufSrc { buf := [], cap := cap, inner := t } mh).1 = .err .header := by
  obtain ⟨r', h1, -⟩ := head_of_flat t cap mh hw hc (hflat ▸ head_too_many h hwf rest mh hmh hcap)
  rw [h1]

example : wfT C04.exT ∧ 0 < 7 ∧ C04.exHead.WF Consts.maxLineLen ∧ 2 < C04.exHead.fields.length ∧
    2 ≤ Headers.maxSize ∧ flatT C04.exT = bytesI C04.exHead.render ++ C04.exRest :=
  ⟨C04.exT_wf, by decide, C04.exHead_wf, by decide, by decide, C04.exT_flat⟩

/-! ### (k) segmentation independence, for ANY input -/

/-- (k) Two transports that carry the same flat stream (bytes, errors and pauses in the same order)
    give the same head result, valid or not, whatever the segmentation and the capacities. -/
theorem C04_seg_indep (t1 t2 : Transport) (cap1 cap2 mh : Nat)
    (hw1 : wfT t1) (hw2 : wfT t2) (hc1 : 0 < cap1) (hc2 : 0 < cap2) (hflat : flatT t1 = flatT t2) :
    (parseResponseHead bufSrc { buf := [], cap := cap1, inner := t1 } mh).1 =
      (parseResponseHead bufSrc { buf := [], cap := cap2, inner := t2 } mh).1 ∧
    (parseResponseHead bufSrc { buf := [], cap := cap1, inner := t1 } mh).2.flat =
      (parseResponseHead bufSrc { buf := [], cap := cap2, inner := t2 } mh).2.flat := by
  obtain ⟨r1, a, a', -⟩ := head_flat t1 cap1 mh hw1 hc1
  obtain ⟨r2, b, b', -⟩ := head_flat t2 cap2 mh hw2 hc2
  rw [a, b, hflat]
  exact ⟨rfl, (hflat ▸ a').trans b'.symm⟩

/-- an invalid head (`HTTP/1.1 2x0`), byte by byte versus in one piece -/
example : let t1 : Transport := [.data [72], .data [84, 84, 80, 47, 49, 46, 49, 32], .err 0, .data [50, 120, 48, 13], .data [10]]
    let t2 : Transport := [.data [72, 84, 84, 80, 47, 49, 46, 49, 32], .err 0, .data [50, 120, 48, 13, 10]]
    wfT t1 ∧ wfT t2 ∧ flatT t1 = flatT t2 := by decide

/-- the same for the whole `parse_response` (status, headers, framing, error) -/
theorem C04_seg_indep_response (m : Method) (t1 t2 : Transport) (cap1 cap2 mh : Nat)
    (hw1 : wfT t1) (hw2 : wfT t2) (hc1 : 0 < cap1) (hc2 : 0 < cap2) (hflat : flatT t1 = flatT t2) :
    (parseResponse m mh cap1 t1).map (fun r => (r.status, r.headers, r.rawHeaders, r.coding)) =
      (parseResponse m mh cap2 t2).map (fun r => (r.status, r.headers, r.rawHeaders, r.coding)) := by
  obtain ⟨r1, -, -, hp1⟩ := parseResponse_flat t1 cap1 mh hw1 hc1
  obtain ⟨r2, -, -, hp2⟩ := parseResponse_flat t2 cap2 mh hw2 hc2
  rw [hp1, hp2, hflat]
  rcases (parseResponseHead flatSrc (flatT t2) mh).1 with ⟨status, hs⟩ | e | _ | _
  · simp only; cases chooseFraming m status hs <;> rfl
  · rfl
  · rfl
  · rfl

/-! ### (l) status codes -/

/-- (l) every three-digit code 100…999 is parsed to itself … -/
theorem C04_status_codes (c : Nat) (hlo : 100 ≤ c) (hhi : c ≤ 999) :
    statusFromBytes (render3 c) = some c :=
  (render3_facts c (by omega) hlo).2.2

/-- … and nothing else is a status code: exactly three ASCII digits, the first one not `0`. -/
theorem C04_status_codes_only (bs : Bytes) (c : Nat) (h : statusFromBytes bs = some c) :
    100 ≤ c ∧ c ≤ 999 ∧ bs = render3 c := by
  match bs, h with
  | [x, y, z], h =>
    simp only [statusFromBytes] at h
    split at h
    · rename_i hd
      simp only [isDigit, Bool.and_eq_true, decide_eq_true_eq, bne_iff_ne, ne_eq,
        UInt8.le_iff_toNat_le, ← UInt8.toNat_inj] at hd
      simp only [Option.some.injEq] at h
      have hx : x.toNat < 256 := x.toNat_lt
      have e1 : (48 : UInt8).toNat = 48 := rfl
      have e2 : (57 : UInt8).toNat = 57 := rfl
      rw [e1, e2] at hd
      subst h
      refine ⟨by omega, by omega, ?_⟩
      have hx' : 48 + ((x.toNat - 48) * 100 + (y.toNat - 48) * 10 + (z.toNat - 48)) / 100 = x.toNat := by
        omega
      have hy' : 48 + ((x.toNat - 48) * 100 + (y.toNat - 48) * 10 + (z.toNat - 48)) / 10 % 10 = y.toNat := by
        omega
      have hz' : 48 + ((x.toNat - 48) * 100 + (y.toNat - 48) * 10 + (z.toNat - 48)) % 10 = z.toNat := by
        omega
      simp only [render3, hx', hy', hz', UInt8.ofNat_toNat]
    · simp at h

example : statusFromBytes (render3 100) = some 100 ∧ statusFromBytes (render3 999) = some 999 ∧
    statusFromBytes [48, 57, 57] = none ∧ statusFromBytes [50, 48] = none ∧
    statusFromBytes [50, 48, 48, 48] = none ∧ statusFromBytes [50, 120, 48] = none := by decide

end Atto
