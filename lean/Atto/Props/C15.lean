/-
  Atto/Props/C15.lean — property C15: "multipart forms decode back to exactly the fields that were
  added".

    (a) `C15_roundtrip`: the body `mpBody b form` is read back by the INDEPENDENT multipart/form-data
        decoder of Spec/MultipartSpec.lean (written from RFC 7578 / RFC 2046 §5.1.1) to exactly the
        parts that were added — texts in order, then files in REVERSE order of addition, file parts
        with `application/octet-stream` when no MIME type was given — provided the delimiter
        `CRLF "--" b` occurs in no value / file data and names carry no `"`, CR, LF.  The data may
        contain anything else.
    (b) `C15_prepare_total`: `boundary()` never panics (the close delimiter is always there, also for
        the empty form) and the `Content-Type` announces the boundary used in the delimiters.
    (c) `C15_copybuf_indep`, `C15_writes_indep`, `C15_chunked_wire`: the transmitted body does not
        depend on the copy-buffer size, also through the chunked writer.
    (d) `C15_collision_position`, `C15_collision_count`: at most `data.length` 16-byte boundaries
        collide with a given data.
  Spec side: Atto/Spec/MultipartSpec.lean.  Helper lemmas: Atto/Lemmas/MultipartLemmas.lean.
-/
import Atto.Gen.Consts
import Atto.Lemmas.MultipartLemmas
import Atto.Props.C07
namespace Atto

/-! ### glue: what was added to the form, as decoder-side parts -/

def textPart (t : Bytes × Bytes) : Part :=
  { name := t.1, filename := none, contentType := none, data := t.2 }

def filePart (f : MFile) : Part :=
  { name := f.name, filename := f.filename,
    contentType := some (f.mime.getD (str "application/octet-stream")), data := f.data }

/-- the parts in the order they are transmitted: texts, then the files last-added first -/
def parts (form : MForm) : List Part := form.texts.map textPart ++ form.files.reverse.map filePart

/-- the parts in the order they were added -/
def partsAdded (form : MForm) : List Part := form.texts.map textPart ++ form.files.map filePart

def isAlnum (c : UInt8) : Bool := isDigit c || isUpper c || isLower c

/-- The boundary is fresh for the form: it is non-empty alphanumeric (`gen_boundary`: 16 alphanumeric bytes) and the delimiter
    `CRLF "--" b` occurs in no text value and in no file data -/
def mpFresh (b : Bytes) (form : MForm) : Prop :=
  b ≠ [] ∧ (∀ c ∈ b, isAlnum c = true) ∧
  (∀ t ∈ form.texts, occursIn (mpDelim b) t.2 = false) ∧
  (∀ f ∈ form.files, occursIn (mpDelim b) f.data = false)

def noQuoteCRLF (s : Bytes) : Prop := (34 : UInt8) ∉ s ∧ (13 : UInt8) ∉ s ∧ (10 : UInt8) ∉ s

/-- names and file names contain no `"`, CR, LF; MIME strings contain no CR, LF and do not start
    with a blank (a `Mime` prints as `type/subtype[; param=value]`) -/
def validNames (form : MForm) : Prop :=
  (∀ t ∈ form.texts, noQuoteCRLF t.1) ∧
  (∀ f ∈ form.files, noQuoteCRLF f.name ∧ (∀ fn, f.filename = some fn → noQuoteCRLF fn) ∧
    (∀ m, f.mime = some m → (13 : UInt8) ∉ m ∧ (10 : UInt8) ∉ m ∧
      m.head? ≠ some 32 ∧ m.head? ≠ some 9))

/-! ### (b) `boundary()` is total; the announced boundary is the one in use -/

theorem C15_prepare_total (b : Bytes) :
    mpBoundaryOf (mpDelim b ++ [45, 45]) = .ok b ∧
    (∀ form : MForm, ∃ pre, mpBody b form = pre ++ (mpDelim b ++ [45, 45])) ∧
    mpBody b ⟨[], []⟩ = mpDelim b ++ [45, 45] ∧
    mpDelim b = [13, 10, 45, 45] ++ b ∧
    (str "multipart/form-data; boundary=").isPrefixOf (mpContentType b) = true ∧
    (mpContentType b).drop (str "multipart/form-data; boundary=").length = b := by
  exact ⟨mpBoundaryOf_close b,
    fun form => ⟨(form.texts.map (mpText b)).flatten ++
      (form.files.reverse.map (fun f => mpFileHeader b f ++ f.data)).flatten,
      by simp only [mpBody, List.append_assoc]⟩,
    by simp [mpBody], rfl, List.isPrefixOf_iff_prefix.mpr ⟨b, rfl⟩, by simp [mpContentType]⟩

/-- non-vacuity: the empty boundary (the shortest close delimiter, 6 bytes) and a 16-byte one -/
example : mpBoundaryOf (mpDelim [] ++ [45, 45]) = .ok [] := (C15_prepare_total []).1
example : mpBoundaryOf (str "\r\n--0123456789abcdef--") = .ok (str "0123456789abcdef") :=
  have h : str "\r\n--0123456789abcdef--" = mpDelim (str "0123456789abcdef") ++ [45, 45] := by
    simp only [str_data]; decide +kernel
  (congrArg mpBoundaryOf h).trans (mpBoundaryOf_close _)
example : mpBody (str "XyZ") ⟨[], []⟩ = str "\r\n--XyZ--" := by decide +kernel
/-- a shorter `end_boundary` would panic: the theorem is about the value `from_fields` stores -/
example : mpBoundaryOf (str "\r\n--") = .panic := by with_unfolding_all rfl

/-! ### (c) the copy buffer does not show in the transmitted body -/

theorem C15_copybuf_indep (n fuel : Nat) (bs : Bytes) (hn : 1 ≤ n) (hf : bs.length + 1 ≤ fuel) :
    (copyPieces n fuel bs).flatten = bs ∧
    (∀ p ∈ copyPieces n fuel bs, p ≠ [] ∧ p.length ≤ n) ∧
    (∀ p ∈ (copyPieces n fuel bs).dropLast, p.length = n) := by
  induction fuel generalizing bs with
  | zero => omega
  | succ fuel ih =>
    by_cases hb : bs = []
    · simp [hb, copyPieces_nil]
    · have hpos : 0 < bs.length := List.length_pos_iff.mpr hb
      have hf' : (bs.drop n).length + 1 ≤ fuel := by simp; omega
      obtain ⟨h1, h2, h3⟩ := ih (bs.drop n) hf'
      rw [copyPieces_succ hb]
      refine ⟨by rw [List.flatten_cons, h1, List.take_append_drop], ?_, ?_⟩
      · intro p hp
        rcases List.mem_cons.mp hp with rfl | hp
        · exact ⟨by simp [hb]; omega, by simp; omega⟩
        · exact h2 p hp
      · intro p hp
        -- a piece in front of another one: the rest was not empty, so `n < bs.length`
        have hne : copyPieces n fuel (bs.drop n) ≠ [] := fun e => by simp [e] at hp
        rw [List.dropLast_cons_of_ne_nil hne] at hp
        rcases List.mem_cons.mp hp with rfl | hp
        · have : bs.drop n ≠ [] := mt (copyPieces_eq_nil hf').mpr hne
          have : n < bs.length := Nat.lt_of_not_le fun hle => this (List.drop_eq_nil_of_le hle)
          simp; omega
        · exact h3 p hp

example : copyPieces 3 8 [1, 2, 3, 4, 5, 6, 7] = [[1, 2, 3], [4, 5, 6], [7]] := by decide
example : (copyPieces 3 8 [1, 2, 3, 4, 5, 6, 7]).flatten = [1, 2, 3, 4, 5, 6, 7] :=
  (C15_copybuf_indep 3 8 _ (by decide) (by decide)).1

theorem C15_writes_indep (n1 n2 : Nat) (b : Bytes) (form : MForm) (h1 : 1 ≤ n1) (h2 : 1 ≤ n2) :
    (mpWrites n1 b form).flatten = mpBody b form ∧
    (mpWrites n2 b form).flatten = mpBody b form ∧
    (mpWrites n1 b form).flatten = (mpWrites n2 b form).flatten := by
  have e1 : (mpWrites n1 b form).flatten = mpBody b form :=
    (C15_copybuf_indep n1 _ _ h1 (Nat.le_refl _)).1
  have e2 : (mpWrites n2 b form).flatten = mpBody b form :=
    (C15_copybuf_indep n2 _ _ h2 (Nat.le_refl _)).1
  exact ⟨e1, e2, e1.trans e2.symm⟩

namespace C15
def form : MForm :=
  { texts := [(str "k", str "v\r\n--B8\r\n"), (str "", str "")],
    files := [{ name := str "f", data := [0, 13, 10, 45, 45, 255], filename := some (str "a;b.bin"), mime := none },
              { name := str "g", data := str "--B7--", filename := none, mime := some (str "text/plain; charset=utf-8") }] }
end C15

example : (mpWrites 1 (str "B7") C15.form).flatten = (mpWrites 8192 (str "B7") C15.form).flatten :=
  (C15_writes_indep 1 8192 _ _ (by decide) (by decide)).2.2
example : (mpWrites 7 (str "B7") C15.form).length = 49 := by decide +kernel

/-- through the chunked writer: the independent chunk decoder of Spec/RequestSpec.lean reads back
    exactly the pieces (none of them empty, so none ends the body early), nothing is left over, and
    their concatenation is the body whatever the buffer size. -/
theorem C15_chunked_wire (n : Nat) (b : Bytes) (form : MForm) (hn : 1 ≤ n) :
    let wire := writeBody { kind := .chunked, writes := mpWrites n b form }
    decodeChunks wire = some (mpWrites n b form, []) ∧
    (decodeChunks wire).map (fun p => (p.1.flatten, p.2)) = some (mpBody b form, []) := by
  have hne : ∀ p ∈ mpWrites n b form, p ≠ [] := fun p hp =>
    ((C15_copybuf_indep n _ _ hn (Nat.le_refl _)).2.1 p hp).1
  have hfil : rqNonEmpty (mpWrites n b form) = mpWrites n b form := by
    unfold rqNonEmpty
    exact List.filter_eq_self.mpr (fun p hp => by simpa using hne p hp)
  have h := (C07_only_last_chunk_is_zero
    { kind := .chunked, writes := mpWrites n b form } rfl).2.1
  simp only [hfil] at h
  refine ⟨h, ?_⟩
  simp only [h, Option.map_some, (C15_writes_indep n n b form hn hn).1]

example : (decodeChunks (writeBody { kind := .chunked, writes := mpWrites 7 (str "B7") C15.form })).map
    (fun p => (p.1.flatten, p.2)) = some (mpBody (str "B7") C15.form, []) :=
  (C15_chunked_wire 7 _ _ (by decide)).2


/-! ### (a) the round trip -/

/-- the model's writer emits the canonical encoding of `parts form` -/
theorem mpBody_eq (b : Bytes) (form : MForm) :
    mpBody b form = mpDelim b ++ mp_tail (mpDelim b) (parts form) := by
  rw [← mp_tail_shift, parts, mpBody, funext (mp_text_block b)]
  simp only [mp_file_block, textPart, filePart, List.map_append, List.map_map, List.flatten_append,
    List.append_assoc, Function.comp_def]

/-- (a) The independent decoder, given the boundary, reads back exactly the parts that were added:
    the texts in order, then the files last-added first, each file with its MIME type or
    `application/octet-stream`.  The values and file data are arbitrary bytes (CR, LF, dashes,
    delimiter look-alikes of another boundary …) as long as the delimiter itself does not occur. -/
theorem C15_roundtrip (b : Bytes) (form : MForm) (hf : mpFresh b form) (hv : validNames form) :
    decodeMultipart b (mpBody b form) = some (parts form) := by
  rw [mpBody_eq]
  refine mp_decode_tail b (fun hm => absurd (hf.2.1 13 hm) (by decide)) _ fun p hp => ?_
  rcases List.mem_append.mp hp with hp | hp
  · obtain ⟨t, ht, rfl⟩ := List.mem_map.mp hp
    exact ⟨⟨(hv.1 t ht).1, (hv.1 t ht).2.1⟩, nofun, nofun, hf.2.2.1 t ht⟩
  · obtain ⟨f, hfm, rfl⟩ := List.mem_map.mp hp
    have hfm := List.mem_reverse.mp hfm
    obtain ⟨hn, hfn, hm⟩ := hv.2 f hfm
    refine ⟨⟨hn.1, hn.2.1⟩, fun fn h => ⟨(hfn fn h).1, (hfn fn h).2.1⟩, ?_, hf.2.2.2 f hfm⟩
    rintro m ⟨⟩
    cases hmime : f.mime with
    | none => decide +kernel   -- the default `application/octet-stream`: no CR, no leading blank
    | some m => exact ⟨(hm m hmime).1, (hm m hmime).2.2⟩

/-- as a multiset: exactly the parts that were added (texts, then files, in the order of addition) -/
theorem C15_roundtrip_perm (b : Bytes) (form : MForm) (hf : mpFresh b form) (hv : validNames form) :
    ∃ ps, decodeMultipart b (mpBody b form) = some ps ∧ ps.Perm (partsAdded form) ∧
      ps.length = form.texts.length + form.files.length := by
  refine ⟨parts form, C15_roundtrip b form hf hv, ?_, by simp [parts]⟩
  exact List.Perm.append_left _ ((List.reverse_perm _).map _)

/-- non-vacuity: the form of `C15.form` — a value with a delimiter look-alike of boundary `B8`, an
    empty name with an empty value, binary file data with CR LF `--`, a file name with `;`, data that
    looks like a close delimiter without CRLF — under boundary `B7` -/
theorem C15.form_fresh : mpFresh (str "B7") C15.form := by
  unfold mpFresh; decide +kernel

theorem C15.form_valid : validNames C15.form := by
  unfold validNames noQuoteCRLF; decide +kernel

example : decodeMultipart (str "B7") (mpBody (str "B7") C15.form) =
    some [⟨str "k", none, none, str "v\r\n--B8\r\n"⟩, ⟨[], none, none, []⟩,
      ⟨str "g", none, some (str "text/plain; charset=utf-8"), str "--B7--"⟩,
      ⟨str "f", some (str "a;b.bin"), some (str "application/octet-stream"), [0, 13, 10, 45, 45, 255]⟩] := by
  rw [C15_roundtrip _ _ C15.form_fresh C15.form_valid]
  simp only [C15.form, str_data]
  decide +kernel

example : ∃ ps, decodeMultipart (str "B7") (mpBody (str "B7") C15.form) = some ps ∧
    ps.Perm (partsAdded C15.form) ∧ ps.length = 4 :=
  C15_roundtrip_perm _ _ C15.form_fresh C15.form_valid

/-- the empty form -/
example : decodeMultipart (str "B7") (mpBody (str "B7") ⟨[], []⟩) = some [] :=
  C15_roundtrip _ _ ⟨by decide +kernel, by decide +kernel, by simp, by simp⟩ ⟨by simp, by simp⟩

/-- the freshness hypothesis is necessary: a value containing the delimiter (here because the
    boundary `B` is a prefix of the look-alike's `B8`) is cut there and the rest is misread -/
example : decodeMultipart (str "B") (mpBody (str "B") ⟨[(str "k", str "v\r\n--B8\r\n")], []⟩) = none := by
  decide +kernel

/-- The statement with the weaker `validNamesWeak` — MIME strings only free of CR / LF — is false
    for the RFC decoder, which skips optional whitespace in front of a field value: a MIME string
    that starts with a blank comes back without it.  (`Mime`'s `Display` never starts with a blank,
    which is what `validNames` adds.) -/
def validNamesWeak (form : MForm) : Prop :=
  (∀ t ∈ form.texts, noQuoteCRLF t.1) ∧
  (∀ f ∈ form.files, noQuoteCRLF f.name ∧ (∀ fn, f.filename = some fn → noQuoteCRLF fn) ∧
    (∀ m, f.mime = some m → (13 : UInt8) ∉ m ∧ (10 : UInt8) ∉ m))

def C15_roundtrip_full : Prop :=
  ∀ (b : Bytes) (form : MForm), mpFresh b form → validNamesWeak form →
    decodeMultipart b (mpBody b form) = some (parts form)

theorem C15_roundtrip_full_refuted : ¬ C15_roundtrip_full := by
  intro h
  have := h (str "B7") ⟨[], [{ name := str "f", data := [], filename := none, mime := some (str " x") }]⟩
    (by unfold mpFresh; decide +kernel) (by unfold validNamesWeak noQuoteCRLF; decide +kernel)
  revert this
  decide +kernel

/-- the closest true statement is `C15_roundtrip` itself (same conclusion, `validNames` instead of
    `validNamesWeak`) -/
theorem C15_roundtrip_partial (b : Bytes) (form : MForm) (hf : mpFresh b form) (hv : validNames form) :
    decodeMultipart b (mpBody b form) = some (parts form) := C15_roundtrip b form hf hv

/-! ### (d) how many boundaries can collide with a given data -/

/-- each occurrence position determines the boundary -/
theorem C15_collision_position (data B : Bytes) (hB : B.length = 16)
    (h : occursIn (mpDelim B) data = true) :
    ∃ i, i < data.length ∧ B = (data.drop (i + 4)).take 16 := by
  obtain ⟨a, c, rfl⟩ := occursIn_iff_infix.mp h
  refine ⟨a.length, by simp [mpDelim], ?_⟩
  have : (a ++ mpDelim B ++ c).drop (a.length + 4) = B ++ c := by
    rw [List.append_assoc, List.drop_append]
    simp [mpDelim]
  rw [this, ← hB]; simp

/-- any duplicate-free list of colliding 16-byte boundaries has at most `data.length` elements:
    a boundary drawn uniformly from the `62 ^ 16` alphanumeric ones is fresh with probability
    at least `1 - data.length / 62 ^ 16`. -/
theorem C15_collision_count (data : Bytes) (Bs : List Bytes) (hnd : Bs.Nodup)
    (hB : ∀ B ∈ Bs, B.length = 16 ∧ occursIn (mpDelim B) data = true) :
    Bs.length ≤ data.length := by
  have hsub : Bs ⊆ (List.range data.length).map (fun i => (data.drop (i + 4)).take 16) := by
    intro B hm
    obtain ⟨i, hi, he⟩ := C15_collision_position data B (hB B hm).1 (hB B hm).2
    exact List.mem_map.mpr ⟨i, List.mem_range.mpr hi, he.symm⟩
  have := hnd.length_le_of_subset hsub
  simpa using this

/-- non-vacuity: a data with two delimiter look-alikes; both boundaries collide, and no third can -/
example : occursIn (mpDelim (str "0123456789abcdef")) (str "x\r\n--0123456789abcdefgh\r\n--123456789abcdefgh") = true := by
  simp only [str_data]; decide +kernel
example : [str "0123456789abcdef", str "123456789abcdefg"].length ≤
    (str "x\r\n--0123456789abcdefgh\r\n--123456789abcdefgh").length :=
  C15_collision_count _ _ (by simp only [str_data]; decide +kernel)
    (by simp only [str_data]; decide +kernel)
example : ∃ i, i < 10 ∧ (str "AAAAAAAAAAAAAAAA") = ((str "\r\n--AAAAAAAAAAAAAAAA").drop (i + 4)).take 16 :=
  ⟨0, by decide, by simp only [str_data]; decide +kernel⟩


/-- Tie to the source: the boundary drawn by `gen_boundary` has the 16 characters the collision
    bound is stated for (`BOUNDARY_LEN`, extracted on this run). -/
theorem C15_boundary_len : Consts.boundaryLen = 16 := by decide

end Atto
