/-
  Atto/Props/C02.lean — "Incomplete or corrupt framing never reads as complete; no bytes are
  fabricated". Stated on the real pipeline model (`parseResponse` / `reads` over an arbitrary
  well-formed scripted transport `t`, constrained only through `flatT t`).
-/
import Atto.Lemmas.ChunkedRuns
import Atto.Lemmas.LengthClose
import Atto.Lemmas.ExampleFacts
namespace Atto

local notation "L" => Consts.maxLineLen
local notation "CL" => Consts.chunkSizeLineLimit

/-- (6) a chunked body cut strictly inside a chunk or inside the last-chunk — anywhere up to before
    the LF of the empty line that ends its trailer section, if any — (then EOF, a
    non-Interrupted I/O error followed by anything, or a stall): no read with a non-empty buffer ever
    returns `Ok(0)`, nothing panics, the bytes handed out are a prefix of the data of the complete
    chunks followed by the data `d` of the cut chunk, and the failure is latched. -/
theorem C02_chunked_cut (h : HeadS) (cs : List ChunkS) (part : Bytes) (tailItems : List Item)
    (t : Transport) (cap maxBuf mh : Nat) (m : Method) (ns : List Nat)
    (hwf : wfT t) (hcap : 0 < cap) (hmb : 0 < maxBuf) (hh : h.WF L)
    (hcs : ∀ c ∈ cs, c.WF CL)
    (hmh : h.fields.length ≤ mh) (hms : h.fields.length ≤ Headers.maxSize)
    (hnb : bodyless m h.code = false) (hch : isChunked h.seen = true)
    (hp : (∃ c : ChunkS, c.WF CL ∧ part.length < c.enc.length ∧ part <+: c.enc) ∨
          (∃ l : LastS, l.WF CL ∧ part.length < l.enc.length ∧ part <+: l.enc))
    (ht : tailItems = [] ∨ (∃ k r, k ≠ 0 ∧ tailItems = .err k :: r) ∨
          (∃ r, tailItems = .pause :: r))
    (hflat : flatT t = bytesI (h.render ++ encChunks cs ++ part) ++ tailItems) :
    ∃ resp, parseResponse m mh cap t = .ok resp ∧ resp.status = h.code ∧
      resp.headers = h.seen.remove nameTE ∧
      let evs := (reads maxBuf ns resp.body).1
      (∀ i (hi : i < ns.length), 0 < ns[i] → evs[i]? ≠ some (.ok [])) ∧
      (∀ e ∈ evs, e ≠ .panic) ∧
      (∃ d : Bytes,
        ((∃ c : ChunkS, c.WF CL ∧ part.length < c.enc.length ∧ part <+: c.enc ∧ d = c.data) ∨
         (d = [] ∧ ∃ l : LastS, l.WF CL ∧ part.length < l.enc.length ∧ part <+: l.enc)) ∧
        deliveredEv evs <+: payloadOf cs ++ d) ∧
      (∀ i j, i ≤ j → j < evs.length → (∀ bs, evs[i]? ≠ some (.ok bs)) →
        (∀ bs, evs[j]? ≠ some (.ok bs))) := by
  obtain ⟨r1, hok, hfl, hpr⟩ := parseResponse_framed h hh _ tailItems t cap mh hwf hcap hmh hms
    (by rw [hflat, List.append_assoc]) (chooseFraming_chunked hnb hch)
  refine ⟨_, hpr, rfl, rfl, ?_⟩
  exact chunked_truncated_ev r1 hok maxBuf hmb ns cs hcs part tailItems hp ht hfl

/-- non-vacuity: one complete chunk, the second one cut after 9 of its 16 bytes, then a
    connection reset (kind 104) after which the script would even deliver more bytes -/
example := C02_chunked_cut Ex.headTE [Ex.chunks[0]] Ex.resetPart
  Ex.resetTail
  Ex.resetT 8 4 100 .get
  Ex.readSizes
  (Ex.wfT_seg_append _ _ (Ex.long (Ex.long Ex.headTE_long)) (by decide)) (by decide) (by decide)
  Ex.headTE_wf Ex.chunk0_wf
  (by decide) (by decide) rfl Ex.headTE_chunked
  (.inl Ex.resetPart_in_chunk)
  (.inr (.inl Ex.resetTail_err))
  (Ex.flatT_seg_append _ _)

/-- non-vacuity, cut inside the trailer section: both chunks complete, the last-chunk `00;q` complete,
    the stream ends (EOF) inside the first of two trailer field lines (20 of the 34 bytes of the
    last-chunk with its trailer section) -/
example := C02_chunked_cut Ex.headTE Ex.chunks (Ex.lastT.enc.take 20) []
  (Ex.seg (Ex.headTE.render ++ encChunks Ex.chunks ++ Ex.lastT.enc.take 20)) 8 4 100 .get
  Ex.readSizes
  (Ex.wfT_seg _ (Ex.long (Ex.long Ex.headTE_long))) (by decide) (by decide)
  Ex.headTE_wf Ex.chunks_wf (by decide) (by decide) rfl Ex.headTE_chunked
  (.inr ⟨Ex.lastT, Ex.lastT_wf, by decide +kernel, List.take_prefix _ _⟩)
  (.inl rfl)
  (by rw [Ex.flatT_seg, List.append_nil])

/-- non-vacuity, cut behind the trailer section: everything but the LF of the final empty line has
    arrived, then the transport stalls -/
example := C02_chunked_cut Ex.headTE Ex.chunks (Ex.lastT.enc.take 33) [.pause, .byte 10]
  (Ex.seg (Ex.headTE.render ++ encChunks Ex.chunks ++ Ex.lastT.enc.take 33) ++ [.pause, .data [10]])
  8 4 100 .get
  Ex.readSizes
  (Ex.wfT_seg_append _ _ (Ex.long (Ex.long Ex.headTE_long)) (by decide)) (by decide) (by decide)
  Ex.headTE_wf Ex.chunks_wf (by decide) (by decide) rfl Ex.headTE_chunked
  (.inr ⟨Ex.lastT, Ex.lastT_wf, by decide +kernel, List.take_prefix _ _⟩)
  (.inr (.inr ⟨[.byte 10], rfl⟩))
  (Ex.flatT_seg_append _ _)

/-- (7) `Content-Length: n` but the connection is closed after `pre`, fewer than `n` bytes: no read
    with a non-empty buffer ever returns `Ok(0)` (no clean end), the bytes handed out are a prefix of
    `pre`, nothing panics, every read with a non-empty buffer issued once all of `pre` was delivered
    returns `UnexpectedEof` (however often the caller retries), and before that reads return `Ok`. -/
theorem C02_length_cut (h : HeadS) (pre : Bytes) (n : Nat)
    (t : Transport) (cap maxBuf mh : Nat) (m : Method) (ns : List Nat)
    (hwf : wfT t) (hcap : 0 < cap) (hh : h.WF L)
    (hmh : h.fields.length ≤ mh) (hms : h.fields.length ≤ Headers.maxSize)
    (hnb : bodyless m h.code = false) (hch : isChunked h.seen = false)
    (hcl : isContentLength h.seen = .ok (some n)) (hpre : pre.length < n)
    (hflat : flatT t = bytesI (h.render ++ pre)) :
    ∃ resp, parseResponse m mh cap t = .ok resp ∧ resp.status = h.code ∧
      resp.headers = h.seen.remove nameTE ∧
      let evs := (reads maxBuf ns resp.body).1
      (∀ i (hi : i < ns.length), 0 < ns[i] → evs[i]? ≠ some (.ok [])) ∧
      deliveredEv evs <+: pre ∧
      (∀ e ∈ evs, e ≠ .panic) ∧
      (∀ i (hi : i < ns.length), 0 < ns[i] → deliveredEv (evs.take i) = pre →
          evs[i]? = some (.err .eof)) ∧
      (∀ i, i < ns.length → (deliveredEv (evs.take i)).length < pre.length →
          ∃ bs, evs[i]? = some (.ok bs)) := by
  obtain ⟨r1, hok, hfl, hp⟩ := parseResponse_framed_end h hh pre t cap mh hwf hcap hmh hms hflat
    (chooseFraming_length hnb hch hcl)
  refine ⟨_, hp, rfl, rfl, ?_⟩
  exact cut_run maxBuf ns (Exact.cut hok hpre hfl) (Nat.sub_pos_of_lt hpre)

/-- non-vacuity: `Content-Length: 11` but only `hello` arrives before the connection closes -/
example := C02_length_cut Ex.headCL (str "hello") 11
  Ex.lengthShortT 8 4 100 .get
  Ex.readSizes
  (Ex.wfT_seg _ (Ex.long Ex.headCL_long)) (by decide) Ex.headCL_wf (by decide) (by decide) rfl
  Ex.headCL_chunked Ex.headCL_cl Ex.hello_short (Ex.flatT_seg _)

/-- (8, general form) a `Content-Length` or close-delimited body over ANY stream `rest` following
    the head (I/O errors, stalls, early EOF anywhere, the script going on after an error): at every
    moment the bytes handed out so far are a prefix of the bytes of the stream in order, and no
    read panics. -/
theorem C02_no_fabrication_length_close (h : HeadS) (rest : List Item) (f : Framing)
    (t : Transport) (cap maxBuf mh : Nat) (m : Method) (ns : List Nat)
    (hwf : wfT t) (hcap : 0 < cap) (hh : h.WF L)
    (hmh : h.fields.length ≤ mh) (hms : h.fields.length ≤ Headers.maxSize)
    (hf : chooseFraming m h.code h.seen = .ok f) (hfc : f ≠ .chunked)
    (hflat : flatT t = bytesI h.render ++ rest) :
    ∃ resp, parseResponse m mh cap t = .ok resp ∧
      let evs := (reads maxBuf ns resp.body).1
      (∀ i, deliveredEv (evs.take i) <+: bytesOf rest) ∧ (∀ e ∈ evs, e ≠ .panic) := by
  obtain ⟨r1, hok, hfl, hp⟩ := parseResponse_of_head h hh _ t cap mh hwf hcap hmh hms hflat
  refine ⟨_, hp m f hf, ?_⟩
  have hany : AnyLC (Body.new f r1) (bytesOf rest) := by
    cases f with
    | chunked => exact absurd rfl hfc
    | length n => exact ⟨hok, by rw [hfl]⟩
    | close => exact ⟨hok, by rw [hfl]⟩
  exact any_run maxBuf ns _ _ hany

/-- (8) an I/O error `err k` after `pre`, followed by whatever the script holds (`rest'`) and
    whatever the caller does: the bytes handed out are always a prefix of `pre` followed by the
    bytes of `rest'` — never lost, duplicated or invented. -/
theorem C02_ioerr_length_close (h : HeadS) (pre : Bytes) (k : Nat) (rest' : List Item) (f : Framing)
    (t : Transport) (cap maxBuf mh : Nat) (m : Method) (ns : List Nat)
    (hwf : wfT t) (hcap : 0 < cap) (hh : h.WF L)
    (hmh : h.fields.length ≤ mh) (hms : h.fields.length ≤ Headers.maxSize)
    (hf : chooseFraming m h.code h.seen = .ok f) (hfc : f ≠ .chunked)
    (hflat : flatT t = bytesI (h.render ++ pre) ++ .err k :: rest') :
    ∃ resp, parseResponse m mh cap t = .ok resp ∧
      let evs := (reads maxBuf ns resp.body).1
      (∀ i, deliveredEv (evs.take i) <+: pre ++ bytesOf rest') ∧ (∀ e ∈ evs, e ≠ .panic) := by
  have hflat' : flatT t = bytesI h.render ++ (bytesI pre ++ .err k :: rest') := by
    rw [hflat, bytesI_append, List.append_assoc]
  have hb : bytesOf (bytesI pre ++ .err k :: rest') = pre ++ bytesOf rest' := by
    rw [bytesOf_bytesI_append]; rfl
  rw [← hb]
  exact C02_no_fabrication_length_close h _ f t cap maxBuf mh m ns hwf hcap hh hmh hms hf hfc hflat'

/-- non-vacuity: `Content-Length: 11`, `hello`, a timed-out read (kind 110), then the rest arrives -/
example := C02_ioerr_length_close Ex.headCL (str "hello") 110 (bytesI (str " world")) (.length 11)
  (Ex.seg (Ex.headCL.render ++ str "hello") ++ [.err 110, .data (str " world")]) 8 4 100 .get
  Ex.readSizes
  (Ex.wfT_seg_append _ _ (Ex.long Ex.headCL_long) (by decide +kernel)) (by decide) Ex.headCL_wf
  (by decide) (by decide) (chooseFraming_length rfl Ex.headCL_chunked Ex.headCL_cl) (by decide)
  (by rw [Ex.flatT_seg_append]; simp [flatT, bytesI])
