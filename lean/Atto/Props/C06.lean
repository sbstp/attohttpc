/-
  Atto/Props/C06.lean — property C06: "gzip / deflate bodies are decoded transparently, damage is
  reported" — PARTIAL: the codecs (flate2) are third-party and enter only as a parameter.

    (e) `C06_select`, `C06_head_plain`: which decoder `CompressedReader::new` selects, on the header
        fields: `gzip` iff some `Content-Encoding` / `Transfer-Encoding` value lists the token
        `gzip` (any letter case, alone or in a comma list), else `deflate` likewise, else none;
        never for HEAD.
    (f) `C06_plain_passthrough`, `C06_plain_passthrough_wire`: without either token the response
        is read through the plain reader, i.e. the caller reads C01's stream byte for byte.
    (g) `C06_layering_*`, `C06_decoded`: a decoder is ANY consumer of `Body.read` that stops at the
        first non-`Ok` result: on a complete frame its input is a prefix of the framed payload, is
        all of it once a read reported the end, and never extends into what follows the frame; on
        a truncated frame it is handed an error, never a clean end.
  Helper lemmas: Atto/Lemmas/CompressLemmas.lean; (g) instantiates the C01 / C02 theorems.
-/
import Atto.Lemmas.CompressLemmas
import Atto.Props.C01
import Atto.Props.C02
import Atto.Lemmas.ExampleFacts
import Atto.Lemmas.Str
namespace Atto

local notation "L" => Consts.maxLineLen
local notation "CL" => Consts.chunkSizeLineLimit

/-! ### (e) decoder selection -/

/-- some `Content-Encoding` or `Transfer-Encoding` field value that is visible ASCII lists `tok`
    (lower case) as one of its comma-separated, trimmed, case-insensitively compared elements -/
def declares (hs : Headers) (tok : Bytes) : Prop :=
  ∃ name, (name = nameCE ∨ name = nameTE) ∧
    ∃ v ∈ hs.getAll name, (∀ b ∈ v, isVisibleAscii b = true) ∧
      ∃ t ∈ splitOnByte 44 v, lowerBytes (strTrim t) = tok

theorem declares_iff (hs : Headers) (tok : Bytes) (hl : lowerBytes tok = tok) :
    declares hs tok ↔ haveEncoding hs tok = true := by
  rw [cz_haveEncoding_iff hs tok hl]
  simp only [declares, Framing.declaresIn, or_and_right, exists_or, exists_eq_left]

theorem C06_select (m : Method) (hs : Headers) :
    (selectCoding m hs = .gzip ↔ m ≠ .head ∧ declares hs (str "gzip")) ∧
    (selectCoding m hs = .deflate ↔
      m ≠ .head ∧ ¬ declares hs (str "gzip") ∧ declares hs (str "deflate")) ∧
    (selectCoding m hs = .plain ↔
      m = .head ∨ (¬ declares hs (str "gzip") ∧ ¬ declares hs (str "deflate"))) := by
  rw [declares_iff hs _ cz_lower_gzip, declares_iff hs _ cz_lower_deflate]
  unfold selectCoding
  by_cases hm : m = .head
  · simp [hm]
  · have hm' : (m == .head) = false := by simpa using hm
    cases haveEncoding hs (str "gzip") <;> cases haveEncoding hs (str "deflate") <;> simp [hm, hm']

theorem C06_head_plain (m : Method) (hs : Headers) (h : m = .head) : selectCoding m hs = .plain := by
  subst h; rfl

/-- non-vacuity: letter case, list position, either field, gzip before deflate, HEAD -/
example : selectCoding .get [(str "content-encoding", str "GZip")] = .gzip := by decide +kernel
example : selectCoding .get [(str "transfer-encoding", str "deflate , gzip")] = .gzip := by decide +kernel
example : selectCoding .post [(str "content-type", str "gzip"), (str "content-encoding", str "x, Deflate")]
    = .deflate := by decide +kernel
example : selectCoding .get [(str "content-encoding", str "xgzip"), (str "content-encoding", str "br")]
    = .plain := by decide +kernel
example : selectCoding .head [(str "content-encoding", str "gzip")] = .plain :=
  C06_head_plain _ _ rfl
theorem C06.exDeclares : declares [(str "transfer-encoding", str "deflate , GZIP")] (str "gzip") :=
  ⟨nameTE, Or.inr rfl, str "deflate , GZIP", by decide +kernel, by decide +kernel,
    str " GZIP", by decide +kernel, by decide +kernel⟩
example : declares [(str "transfer-encoding", str "deflate , GZIP")] (str "gzip") := C06.exDeclares
example : selectCoding .get [(str "transfer-encoding", str "deflate , GZIP")] = .gzip :=
  (C06_select _ _).1.mpr ⟨by decide, C06.exDeclares⟩
/-- a value that is not visible ASCII (`to_str` fails) is skipped -/
example : selectCoding .get [(str "content-encoding", [103, 122, 105, 112, 44, 200])] = .plain := by
  decide +kernel

/-! ### (f) no coding declared: the plain reader -/

theorem codingFor_plain {b : Bool} {m : Method} {hs : Headers}
    (hg : ¬ declares hs (str "gzip")) (hd : ¬ declares hs (str "deflate")) :
    codingFor b m hs = .plain := by
  unfold codingFor
  split
  · rfl
  · exact (C06_select m hs).2.2.mpr (Or.inr ⟨hg, hd⟩)

theorem C06_plain_passthrough (m : Method) (mh cap : Nat) (t : Transport) (resp : Resp)
    (hp : parseResponse m mh cap t = .ok resp)
    (hg : ¬ declares resp.rawHeaders (str "gzip")) (hd : ¬ declares resp.rawHeaders (str "deflate")) :
    resp.coding = .plain := by
  rw [cz_parseResponse_coding hp]
  exact codingFor_plain hg hd

/-- A response that has no body (to HEAD, 1xx, 204, 304) is never put through a decoder, whatever
    coding its header fields announce: its empty body reads as empty, not as a gzip stream that was
    cut short at offset 0 (fix F21). For every other response `CompressedReader::new` decides. -/
theorem C06_bodyless_not_decoded (m : Method) (mh cap : Nat) (t : Transport) (resp : Resp)
    (hp : parseResponse m mh cap t = .ok resp) :
    (bodyless m resp.status = true → resp.coding = .plain) ∧
    (bodyless m resp.status = false → resp.coding = selectCoding m resp.rawHeaders) := by
  rw [cz_parseResponse_coding hp]
  unfold codingFor
  constructor <;> intro h <;> simp [h]

/-- non-vacuity: a `304` that announces `Content-Encoding: gzip` (nginx does) is read through the plain
    reader although `CompressedReader::new` alone would pick the gzip decoder; a `200` is decoded -/
example : (match parseResponse .get 100 64
      (Ex.seg (str "HTTP/1.1 304 Not Modified\r\nContent-Encoding: gzip\r\n\r\n")) with
    | .ok r => some (r.status, r.coding, selectCoding .get r.rawHeaders)
    | _ => none) = some (304, .plain, .gzip) := by
  simp only [str_data]
  decide +kernel
example : (match parseResponse .get 100 64
      (Ex.seg (str "HTTP/1.1 200 OK\r\nContent-Encoding: gzip\r\n\r\n")) with
    | .ok r => some (r.status, r.coding)
    | _ => none) = some (200, .gzip) := by
  simp only [str_data]
  decide +kernel

/-- the same on the wire: for a well-formed head `h` (the setting of C01 / C02) the selection is made
    on the field lines the server sent, so under C01's hypotheses plus "no coding declared" the
    response C01 speaks about is read through the plain reader and C01 applies unchanged. -/
theorem C06_plain_passthrough_wire (h : HeadS) (rest : List Item) (t : Transport) (cap mh : Nat)
    (m : Method) (resp : Resp)
    (hwf : wfT t) (hcap : 0 < cap) (hh : h.WF L)
    (hmh : h.fields.length ≤ mh) (hms : h.fields.length ≤ Headers.maxSize)
    (hflat : flatT t = bytesI h.render ++ rest)
    (hp : parseResponse m mh cap t = .ok resp) :
    resp.coding = codingFor (bodyless m h.code) m h.seen ∧
    (¬ declares h.seen (str "gzip") → ¬ declares h.seen (str "deflate") → resp.coding = .plain) := by
  obtain ⟨_, hc⟩ := cz_head_coding h hh rest t cap mh m hwf hcap hmh hms hflat hp
  exact ⟨hc, fun hg hd => hc ▸ codingFor_plain hg hd⟩

/-- the transport of C01's `Content-Length: 11` example is well-formed -/
theorem C06.exCL_wf : wfT (Ex.seg (Ex.headCL.render ++ Ex.body) ++ [.data [7], .pause]) :=
  Ex.wfT_seg_append _ _ (Ex.long Ex.headCL_long) (by decide)

/-- non-vacuity: the `Content-Length: 11` response of C01's example declares no coding -/
example : ∀ resp, parseResponse .get 100 8
      (Ex.seg (Ex.headCL.render ++ Ex.body) ++ [.data [7], .pause]) = .ok resp →
    resp.coding = .plain := by
  intro resp hp
  have := (C06_plain_passthrough_wire Ex.headCL (bytesI Ex.body ++ Ex.afterFrame) _ 8 100 .get resp
    C06.exCL_wf (by decide) Ex.headCL_wf (by decide) (by decide)
    (by rw [Ex.flatT_seg_append, bytesI_append, List.append_assoc]; rfl) hp).1
  rw [this]; decide +kernel

/-! ### (g) layering: what any decoder can be handed -/

/-- the input of a consumer that calls `Body.read` with buffer sizes `ns` and stops at the first
    result that is not `Ok` -/
def pull (maxBuf : Nat) (ns : List Nat) (b : Body) : Bytes := cz_pullEv (reads maxBuf ns b).1

/-- complete `Content-Length` frame followed by arbitrary bytes `trail`: the consumer's input is a
    prefix of the framed `body` — nothing of `trail` — and is all of `body` as soon as one of its
    reads (with a non-empty buffer) reported the end. -/
theorem C06_layering_length (h : HeadS) (body : Bytes) (trail : List Item)
    (t : Transport) (cap maxBuf mh : Nat) (m : Method) (ns : List Nat)
    (hwf : wfT t) (hcap : 0 < cap) (hh : h.WF L)
    (hmh : h.fields.length ≤ mh) (hms : h.fields.length ≤ Headers.maxSize)
    (hnb : bodyless m h.code = false) (hch : isChunked h.seen = false)
    (hcl : isContentLength h.seen = .ok (some body.length))
    (hflat : flatT t = bytesI (h.render ++ body) ++ trail) :
    ∃ resp, parseResponse m mh cap t = .ok resp ∧
      pull maxBuf ns resp.body <+: body ∧
      ((∃ i, ∃ hi : i < ns.length, 0 < ns[i] ∧ (reads maxBuf ns resp.body).1[i]? = some (.ok [])) →
        pull maxBuf ns resp.body = body) := by
  obtain ⟨resp, hp, _, _, hok, hpre, hend, _⟩ :=
    C01_length h body trail t cap maxBuf mh m ns hwf hcap hh hmh hms hnb hch hcl hflat
  exact ⟨resp, hp, cz_pull_complete _ ns body hok hpre hend⟩

/-- the same for a complete chunked frame: the payload is the concatenated chunk data -/
theorem C06_layering_chunked (h : HeadS) (cs : List ChunkS) (last : LastS) (trail : List Item)
    (t : Transport) (cap maxBuf mh : Nat) (m : Method) (ns : List Nat)
    (hwf : wfT t) (hcap : 0 < cap) (hmb : 0 < maxBuf) (hh : h.WF L)
    (hcs : ∀ c ∈ cs, c.WF CL) (hl : last.WF CL)
    (hmh : h.fields.length ≤ mh) (hms : h.fields.length ≤ Headers.maxSize)
    (hnb : bodyless m h.code = false) (hch : isChunked h.seen = true)
    (hflat : flatT t = bytesI (h.render ++ encChunks cs ++ last.enc) ++ trail) :
    ∃ resp, parseResponse m mh cap t = .ok resp ∧
      pull maxBuf ns resp.body <+: payloadOf cs ∧
      ((∃ i, ∃ hi : i < ns.length, 0 < ns[i] ∧ (reads maxBuf ns resp.body).1[i]? = some (.ok [])) →
        pull maxBuf ns resp.body = payloadOf cs) := by
  obtain ⟨resp, hp, _, _, hok, hpre, hend, _⟩ :=
    C01_chunked h cs last trail t cap maxBuf mh m ns hwf hcap hmb hh hcs hl hmh hms hnb hch hflat
  exact ⟨resp, hp, cz_pull_complete _ ns _ hok hpre hend⟩

example := C06_layering_chunked Ex.headTE Ex.chunks Ex.last Ex.afterFrame
  Ex.chunkedT 8 4 100 .get
  Ex.readSizes
  (Ex.wfT_seg_append _ _ (Ex.long (Ex.long Ex.headTE_long)) (by decide)) (by decide) (by decide)
  Ex.headTE_wf Ex.chunks_wf Ex.last_wf (by decide) (by decide) rfl Ex.headTE_chunked
  (Ex.flatT_seg_append _ _)

/-- … with a trailer section behind the last-chunk -/
example := C06_layering_chunked Ex.headTE Ex.chunks Ex.lastT Ex.afterFrame
  Ex.chunkedTrailersT 8 4 100 .get
  Ex.readSizes
  (Ex.wfT_seg_append _ _ (Ex.long (Ex.long Ex.headTE_long)) (by decide)) (by decide) (by decide)
  Ex.headTE_wf Ex.chunks_wf Ex.lastT_wf (by decide) (by decide) rfl Ex.headTE_chunked
  (Ex.flatT_seg_append _ _)

/-- and for a close-delimited body -/
theorem C06_layering_close (h : HeadS) (body : Bytes)
    (t : Transport) (cap maxBuf mh : Nat) (m : Method) (ns : List Nat)
    (hwf : wfT t) (hcap : 0 < cap) (hh : h.WF L)
    (hmh : h.fields.length ≤ mh) (hms : h.fields.length ≤ Headers.maxSize)
    (hnb : bodyless m h.code = false) (hch : isChunked h.seen = false)
    (hcl : isContentLength h.seen = .ok none)
    (hflat : flatT t = bytesI (h.render ++ body)) :
    ∃ resp, parseResponse m mh cap t = .ok resp ∧
      pull maxBuf ns resp.body <+: body ∧
      ((∃ i, ∃ hi : i < ns.length, 0 < ns[i] ∧ (reads maxBuf ns resp.body).1[i]? = some (.ok [])) →
        pull maxBuf ns resp.body = body) := by
  obtain ⟨resp, hp, _, _, hok, hpre, hend, _⟩ :=
    C01_close h body t cap maxBuf mh m ns hwf hcap hh hmh hms hnb hch hcl hflat
  exact ⟨resp, hp, cz_pull_complete _ ns body hok hpre hend⟩

example := C06_layering_close Ex.headClose Ex.body
  Ex.closeT 8 4 100 .get
  Ex.readSizes
  (Ex.wfT_seg _ Ex.headClose_body_long) (by decide) Ex.headClose_wf (by decide) (by decide)
  rfl Ex.headClose_chunked Ex.headClose_cl (Ex.flatT_seg _)

/-- truncated `Content-Length` frame (`pre` shorter than announced, then the connection closes):
    the consumer is never told "end of input" — no read with a non-empty buffer returns `Ok(0)` —
    what it was handed is a prefix of `pre`, and every read it issues after all of `pre` was handed
    out is `UnexpectedEof`.  A decoder therefore cannot mistake the damage for a short stream. -/
theorem C06_layering_length_cut (h : HeadS) (pre : Bytes) (n : Nat)
    (t : Transport) (cap maxBuf mh : Nat) (m : Method) (ns : List Nat)
    (hwf : wfT t) (hcap : 0 < cap) (hh : h.WF L)
    (hmh : h.fields.length ≤ mh) (hms : h.fields.length ≤ Headers.maxSize)
    (hnb : bodyless m h.code = false) (hch : isChunked h.seen = false)
    (hcl : isContentLength h.seen = .ok (some n)) (hpre : pre.length < n)
    (hflat : flatT t = bytesI (h.render ++ pre)) :
    ∃ resp, parseResponse m mh cap t = .ok resp ∧
      let evs := (reads maxBuf ns resp.body).1
      (∀ i (hi : i < ns.length), 0 < ns[i] → evs[i]? ≠ some (.ok [])) ∧
      pull maxBuf ns resp.body <+: pre ∧
      (∀ i (hi : i < ns.length), 0 < ns[i] → deliveredEv (evs.take i) = pre →
        evs[i]? = some (.err .eof)) := by
  obtain ⟨resp, hp, _, _, hno, hpr, _, heof, _⟩ :=
    C02_length_cut h pre n t cap maxBuf mh m ns hwf hcap hh hmh hms hnb hch hcl hpre hflat
  exact ⟨resp, hp, hno, (cz_pullEv_prefix _).trans hpr, heof⟩

example := C06_layering_length_cut Ex.headCL (str "hello") 11
  Ex.lengthShortT 8 4 100 .get
  Ex.readSizes
  (Ex.wfT_seg _ (Ex.long Ex.headCL_long)) (by decide) Ex.headCL_wf (by decide) (by decide)
  rfl Ex.headCL_chunked Ex.headCL_cl Ex.hello_short (Ex.flatT_seg _)

/-- truncated chunked frame: never a clean end, the failure is latched, and what the consumer was
    handed is a prefix of the data of the complete chunks followed by that of the cut chunk. -/
theorem C06_layering_chunked_cut (h : HeadS) (cs : List ChunkS) (part : Bytes) (tailItems : List Item)
    (t : Transport) (cap maxBuf mh : Nat) (m : Method) (ns : List Nat)
    (hwf : wfT t) (hcap : 0 < cap) (hmb : 0 < maxBuf) (hh : h.WF L)
    (hcs : ∀ c ∈ cs, c.WF CL)
    (hmh : h.fields.length ≤ mh) (hms : h.fields.length ≤ Headers.maxSize)
    (hnb : bodyless m h.code = false) (hch : isChunked h.seen = true)
    (hp : (∃ c : ChunkS, c.WF CL ∧ part.length < c.enc.length ∧ part <+: c.enc) ∨
          (∃ l : LastS, l.WF CL ∧ part.length < l.enc.length ∧ part <+: l.enc))
    (ht : tailItems = [] ∨ (∃ k r, k ≠ 0 ∧ tailItems = .err k :: r) ∨
          (∃ r, tailItems = .pause :: r))
    (hflat : flatT t = bytesI (h.render ++ encChunks cs ++ part) ++ tailItems) :
    ∃ resp, parseResponse m mh cap t = .ok resp ∧
      let evs := (reads maxBuf ns resp.body).1
      (∀ i (hi : i < ns.length), 0 < ns[i] → evs[i]? ≠ some (.ok [])) ∧
      (∃ d : Bytes,
        ((∃ c : ChunkS, c.WF CL ∧ part.length < c.enc.length ∧ part <+: c.enc ∧ d = c.data) ∨
         (d = [] ∧ ∃ l : LastS, l.WF CL ∧ part.length < l.enc.length ∧ part <+: l.enc)) ∧
        pull maxBuf ns resp.body <+: payloadOf cs ++ d) := by
  obtain ⟨resp, hpr, _, _, hno, _, ⟨d, hd, hpre⟩, _⟩ :=
    C02_chunked_cut h cs part tailItems t cap maxBuf mh m ns hwf hcap hmb hh hcs hmh hms hnb hch hp ht hflat
  exact ⟨resp, hpr, hno, d, hd, (cz_pullEv_prefix _).trans hpre⟩

example := C06_layering_chunked_cut Ex.headTE [Ex.chunks[0]] Ex.resetPart
  Ex.resetTail
  Ex.resetT 8 4 100 .get
  Ex.readSizes
  (Ex.wfT_seg_append _ _ (Ex.long (Ex.long Ex.headTE_long)) (by decide)) (by decide) (by decide)
  Ex.headTE_wf Ex.chunk0_wf (by decide) (by decide) rfl Ex.headTE_chunked
  (.inl Ex.resetPart_in_chunk)
  (.inr (.inl Ex.resetTail_err))
  (Ex.flatT_seg_append _ _)

/-- (g, corollary) the decoded result under the transducer assumption: whatever function `dec` of
    its input a decoder computes (`none` = it reports damage), once the consumer has seen the end
    of a complete frame the result is `dec` of the framed payload — the bytes the server coded —
    independently of segmentation, buffer capacities and the read schedule. -/
theorem C06_decoded (dec : Bytes → Option Bytes) (h : HeadS) (body : Bytes) (trail : List Item)
    (t : Transport) (cap maxBuf mh : Nat) (m : Method) (ns : List Nat)
    (hwf : wfT t) (hcap : 0 < cap) (hh : h.WF L)
    (hmh : h.fields.length ≤ mh) (hms : h.fields.length ≤ Headers.maxSize)
    (hnb : bodyless m h.code = false) (hch : isChunked h.seen = false)
    (hcl : isContentLength h.seen = .ok (some body.length))
    (hflat : flatT t = bytesI (h.render ++ body) ++ trail) :
    ∃ resp, parseResponse m mh cap t = .ok resp ∧
      ((∃ i, ∃ hi : i < ns.length, 0 < ns[i] ∧ (reads maxBuf ns resp.body).1[i]? = some (.ok [])) →
        dec (pull maxBuf ns resp.body) = dec body) := by
  obtain ⟨resp, hp, _, hfull⟩ :=
    C06_layering_length h body trail t cap maxBuf mh m ns hwf hcap hh hmh hms hnb hch hcl hflat
  exact ⟨resp, hp, fun hex => by rw [hfull hex]⟩

/-- non-vacuity: C01's `Content-Length: 11` example with an 8-byte BufReader, garbage and a stall
    after the frame -/
example := C06_decoded (fun bs => some bs.reverse) Ex.headCL Ex.body Ex.afterFrame
  Ex.lengthT 8 4 100 .get
  Ex.readSizes
  C06.exCL_wf (by decide) Ex.headCL_wf (by decide) (by decide)
  rfl Ex.headCL_chunked Ex.headCL_cl_body (Ex.flatT_seg_append _ _)

namespace C06
def isEnd : Option Ev → Bool
  | some (Ev.ok []) => true
  | _ => false
theorem isEnd_eq {o : Option Ev} (h : isEnd o = true) : o = some (.ok []) := by
  unfold isEnd at h
  split at h
  · rfl
  · cases h
def endAt (maxBuf : Nat) (ns : List Nat) (i : Nat) : RR Resp → Bool
  | .ok r => isEnd (reads maxBuf ns r.body).1[i]?
  | _ => false
end C06

/-- … and the "end was reported" premise is met there: the reads hand out `[]`, `h`, `ello world`
    and the 4th read (buffer size 1) returns `Ok(0)`; the consumer's input is exactly `hello world`. -/
example : ∀ resp, parseResponse .get 100 8
      (Ex.seg (Ex.headCL.render ++ Ex.body) ++ [.data [7], .pause]) = .ok resp →
    pull 4 [0, 3, 100, 1, 5, 5, 0, 2] resp.body = Ex.body := by
  intro resp hp
  obtain ⟨resp', hp', _, hfull⟩ := C06_layering_length Ex.headCL Ex.body [.byte 7, .pause]
    (Ex.seg (Ex.headCL.render ++ Ex.body) ++ [.data [7], .pause]) 8 4 100 .get
    [0, 3, 100, 1, 5, 5, 0, 2]
    C06.exCL_wf (by decide) Ex.headCL_wf (by decide) (by decide)
    rfl Ex.headCL_chunked Ex.headCL_cl_body (Ex.flatT_seg_append _ _)
  rw [hp] at hp'; cases hp'
  have hev : C06.endAt 4 [0, 3, 100, 1, 5, 5, 0, 2] 3 (parseResponse .get 100 8
      (Ex.seg (Ex.headCL.render ++ Ex.body) ++ [.data [7], .pause])) = true := by decide +kernel
  rw [hp] at hev
  exact hfull ⟨3, by decide, by decide, C06.isEnd_eq hev⟩

end Atto
