/-
  Atto/Props/C07.lean — "each connection carries exactly one well-formed, faithfully framed request".

  The bytes `writeRequest` puts on a connection are read back by the INDEPENDENT request parser of
  Spec/RequestSpec.lean (`parseRequest`, written from RFC 9112) to the same method, target, header
  fields and body octets, with nothing left over; the framing headers `tryPrepare` leaves are
  consistent whatever the caller put into the header map; the chunked encoder never emits a
  zero-size chunk except the terminator; Basic credentials decode back; defaults are defaults.
  Helper lemmas: Lemmas/RqRoundTrip.lean, Lemmas/RqHeaders.lean, Lemmas/RqRadix.lean,
  Lemmas/B64RoundTrip.lean, Lemmas/RqLex.lean.

  Hypotheses of (a) that the property statement does not list but that are necessary (all three values are
  written verbatim into a field line by the model; in the Rust code they are `HeaderValue`s, whose
  constructor rejects CR / LF, but may carry leading / trailing blanks which a parser strips):
  `rqWFValue s.userAgent`, `rqWFValue t` for the body's Content-Type `t`, `rqWFValue u.authority`.
-/
import Atto.Lemmas.RqRoundTrip
import Atto.Lemmas.B64RoundTrip
import Atto.Lemmas.RqSend
import Atto.Lemmas.Framing
namespace Atto

/-! ### example data -/
namespace C07
def url : Url :=
  { scheme := str "http", user := str "bob", pass := some (str "pw"), host := str "example.com", hostKind := 0,
    port := some 8080, effPort := 8080, path := str "/a/b", query := some (str "x=1&y=%20"),
    fragment := some (str "frag") }
def settings : PrepSettings := { allowCompression := true, userAgent := str "attohttpc/0.30" }
/-- caller headers, among them framing headers the caller should not have set, and a stale Host -/
def hdrs : Headers :=
  [(str "x-note", str "a  b\tc"), (str "content-length", str "999"), (str "accept", str "text/html"),
   (str "transfer-encoding", str "gzip"), (str "x-empty", []), (str "host", str "stale"), (str "accept", str "*/*;q=0.1")]
/-- a 9000-byte slice (> 8 KiB, the size of the writer's internal buffer) -/
def big : Bytes := List.replicate 9000 120
/-- a streaming body: empty slices, a big slice, a slice that looks like a terminator -/
def chunkedBody : BodyM :=
  { kind := .chunked, contentType := some (str "application/json"),
    writes := [[], str "hello", [], [], big, str "\r\n0\r\n\r\n", []] }
def knownBody : BodyM := { kind := .known 11, writes := [str "hello", [], str " world"] }
def emptyBody : BodyM := { kind := .empty, writes := [str "ignored"] }
def req : Req :=
  { method := str "POST", methodM := .post, headers := tryPrepare settings hdrs knownBody, body := knownBody,
    bodyRewindable := true }
def proxyUrl : Url :=
  { scheme := str "http", user := str "pu", pass := some (str "pp"), host := str "proxy.local", hostKind := 0,
    port := some 3128, effPort := 3128, path := str "/", query := none, fragment := none }
def viaProxy : SendSettings :=
  { followRedirects := true, maxRedirections := 5, maxHeaders := 100,
    proxy := { httpProxy := some proxyUrl, httpsProxy := none, disabled := false, noProxy := [] } }
def hop : Hop := { script := [.data (str "HTTP/1.1 200 OK\r\ncontent-length: 0\r\n\r\n")], resolved := none }

/-- what the round-trip theorems ask of the example URL, settings and caller headers -/
theorem target_ne : url.originForm ≠ [] := by decide +kernel
theorem target_clean : ∀ c ∈ url.originForm, c ≠ 32 ∧ c ≠ 13 ∧ c ≠ 10 := by decide +kernel
theorem hdrs_wf : hdrs.WFReq := by decide +kernel
theorem ua_wf : rqWFValue settings.userAgent := by decide +kernel
theorem authority_wf : rqWFValue url.authority := by decide +kernel
end C07

/-! ### (b) framing headers -/

/-- (b) Whatever the caller put into the header map (also `content-length` / `transfer-encoding`
    of their own), after `try_prepare` the framing fields are exactly: one `content-length` with
    the decimal length and no `transfer-encoding` for a body of known length; one
    `transfer-encoding: chunked` and no `content-length` for a streaming body; neither for no body.
    Never both, never neither for a non-empty kind. And `connection: close`, once. -/
theorem C07_framing (s : PrepSettings) (h0 : Headers) (b : BodyM) :
    ((tryPrepare s h0 b).getAll nameCL, (tryPrepare s h0 b).getAll nameTE) =
      (match b.kind with
       | .known n => ([natDigits n], [])
       | .chunked => ([], [str "chunked"])
       | .empty => ([], [])) ∧
    (tryPrepare s h0 b).getAll (str "connection") = [str "close"] := by
  rw [rq_tryPrepare_getAll s h0 b (by simp [nameCL, str_inj]) (by simp [nameCL, str_inj]),
    rq_tryPrepare_getAll s h0 b (by simp [nameTE, str_inj]) (by simp [nameTE, str_inj]),
    rq_tryPrepare_getAll s h0 b (by simp [str_inj]) (by simp [str_inj])]
  exact rq_prepMid_framing _ b

/-- the same after `set_host` (what is actually written) -/
theorem C07_framing_setHost (s : PrepSettings) (h0 : Headers) (b : BodyM) (u : Url) :
    ((setHost (tryPrepare s h0 b) u).getAll nameCL, (setHost (tryPrepare s h0 b) u).getAll nameTE) =
      (match b.kind with
       | .known n => ([natDigits n], [])
       | .chunked => ([], [str "chunked"])
       | .empty => ([], [])) ∧
    (setHost (tryPrepare s h0 b) u).getAll (str "connection") = [str "close"] := by
  -- none of the three names is `host`
  rw [rq_getAll_setHost, if_neg (by simp [rq_nameCL, rq_hName]), rq_getAll_setHost,
    if_neg (by simp [rq_nameTE, rq_hName]), rq_getAll_setHost, if_neg (by simp [rq_hName])]
  exact C07_framing s h0 b

/-- non-vacuity: the caller's `content-length: 999` and `transfer-encoding: gzip` are gone -/
example : ((tryPrepare C07.settings C07.hdrs C07.chunkedBody).getAll nameCL,
    (tryPrepare C07.settings C07.hdrs C07.chunkedBody).getAll nameTE) = ([], [str "chunked"]) :=
  (C07_framing C07.settings C07.hdrs C07.chunkedBody).1
example : ((tryPrepare C07.settings C07.hdrs C07.knownBody).getAll nameCL,
    (tryPrepare C07.settings C07.hdrs C07.knownBody).getAll nameTE) = ([natDigits 11], []) :=
  (C07_framing C07.settings C07.hdrs C07.knownBody).1

/-! ### (c) chunked encoding: only the terminator has size zero -/

/-- (c) A streaming body is written as the chunks of its NON-EMPTY writes followed by the
    terminator `0 CRLF CRLF`: a zero-length write produces no bytes, every emitted chunk has a size
    ≥ 1 whose lower-case hex size line has no leading zero and parses back to the size, and the
    independent chunk decoder reads back exactly the non-empty writes with nothing left over. -/
theorem C07_only_last_chunk_is_zero (b : BodyM) (hk : b.kind = .chunked) :
    writeBody b = ((rqNonEmpty b.writes).map rqEncChunk).flatten ++ str "0\r\n\r\n" ∧
    decodeChunks (writeBody b) = some (rqNonEmpty b.writes, []) ∧
    (∀ w ∈ rqNonEmpty b.writes, 1 ≤ w.length) ∧
    chunkedWrite [] = [] ∧
    (∀ w : Bytes, w ≠ [] →
      chunkedWrite w = hexLower w.length ++ [13, 10] ++ w ++ [13, 10] ∧
      rqParseHex (hexLower w.length) = some w.length ∧ (hexLower w.length).head? ≠ some 48) := by
  refine ⟨by rw [rq_writeBody_chunked b hk, rq_str_last], ?_, rq_nonEmpty_ne b.writes, rfl, ?_⟩
  · rw [rq_writeBody_chunked b hk]
    have := rq_decodeChunks_enc' (rqNonEmpty b.writes) (rq_nonEmpty_ne b.writes) []
    simpa using this
  · intro w hw
    refine ⟨by simp [chunkedWrite, hw], rq_hexLower_parse _, rq_hexLower_no_leading_zero _ ?_⟩
    cases w with
    | nil => exact absurd rfl hw
    | cons a w => simp

/-- non-vacuity: empty slices, a slice > 8 KiB, a slice that looks like a terminator -/
example : decodeChunks (writeBody C07.chunkedBody) =
    some ([str "hello", C07.big, str "\r\n0\r\n\r\n"], []) := by
  rw [(C07_only_last_chunk_is_zero C07.chunkedBody rfl).2.1]
  have h1 : C07.big ≠ [] := by
    intro h
    have := congrArg List.length h
    simp only [C07.big, List.length_replicate, List.length_nil] at this
    omega
  have h2 : str "hello" ≠ [] := by decide +kernel
  have h3 : str "\r\n0\r\n\r\n" ≠ [] := by decide +kernel
  simp [rqNonEmpty, C07.chunkedBody, h1, h2, h3]

/-! ### (d) Basic credentials -/

/-- (d) `basic_auth(user, pass)` sets `Authorization: Basic ` followed by the base64 of
    `user ":" pass` (RFC 7617): decoding what follows the scheme gives back exactly those octets,
    for all byte strings. -/
theorem C07_basic (user : Bytes) (pass : Option Bytes) :
    (basicAuthValue user pass).take 6 = str "Basic " ∧
    b64Decode ((basicAuthValue user pass).drop 6) = some (user ++ [58] ++ pass.getD []) ∧
    ∀ h : Headers, (HOp.apply h (.basic user pass)).getAll (str "authorization") = [basicAuthValue user pass] := by
  refine ⟨?_, ?_, ?_⟩
  · simp [basicAuthValue, rq_str_basic]
  · simp [basicAuthValue, rq_str_basic, b64Decode_b64Encode]
  · intro h; simp [HOp.apply, rq_getAll_insert, rq_hName]

example : b64Decode ((basicAuthValue (str "Aladdin") (some (str "open sesame"))).drop 6) =
    some (str "Aladdin:open sesame") := by
  rw [(C07_basic _ _).2.1]; decide +kernel
example : basicAuthValue (str "Aladdin") (some (str "open sesame")) = str "Basic QWxhZGRpbjpvcGVuIHNlc2FtZQ==" := by
  simp only [str_data]
  decide +kernel

/-! ### (e) defaults -/

/-- (e) `Accept: */*` and the default User-Agent are present iff the caller supplied none (the
    caller's values are kept otherwise); `Accept-Encoding` is `gzip, deflate` iff compression is
    allowed, else whatever the caller set. -/
theorem C07_defaults (s : PrepSettings) (h0 : Headers) (b : BodyM) :
    (tryPrepare s h0 b).getAll (str "accept") =
      (if h0.getAll (str "accept") = [] then [str "*/*"] else h0.getAll (str "accept")) ∧
    (tryPrepare s h0 b).getAll (str "user-agent") =
      (if h0.getAll (str "user-agent") = [] then [s.userAgent] else h0.getAll (str "user-agent")) ∧
    (tryPrepare s h0 b).getAll (str "accept-encoding") =
      (if s.allowCompression then [str "gzip, deflate"] else h0.getAll (str "accept-encoding")) :=
  ⟨rq_tryPrepare_accept s h0 b, rq_tryPrepare_userAgent s h0 b, rq_tryPrepare_acceptEncoding s h0 b⟩

/-- non-vacuity: the caller's two Accept values are kept in order, the User-Agent is the default -/
example : (tryPrepare C07.settings C07.hdrs C07.knownBody).getAll (str "accept") = [str "text/html", str "*/*;q=0.1"] ∧
    (tryPrepare C07.settings C07.hdrs C07.knownBody).getAll (str "user-agent") = [str "attohttpc/0.30"] := by
  obtain ⟨h1, h2, _⟩ := C07_defaults C07.settings C07.hdrs C07.knownBody
  rw [h1, h2]; decide +kernel

/-! ### (a) the round trip -/

/-- an honest `Body`: it writes as many octets as the length it announced -/
def BodyM.Honest (b : BodyM) : Prop :=
  match b.kind with
  | .known n => b.writes.flatten.length = n
  | _ => True

instance (b : BodyM) : Decidable b.Honest := by
  unfold BodyM.Honest; cases b.kind <;> infer_instance

/-- the octets a server must receive as the body -/
def expectedBody (b : BodyM) : Bytes :=
  match b.kind with
  | .empty => []
  | _ => b.writes.flatten

/-- the body alone, for ANY header map written whose framing fields fit the body (as `C07_framing`
    says of `tryPrepare`'s): the parser, told these headers, reads back the body octets and leaves
    nothing -/
theorem C07_body_roundtrip_any (h : Headers) (b : BodyM) (hw : h.WFReq) (hb : b.Honest)
    (hfr : (h.getAll nameCL, h.getAll nameTE) = rqFramingOf b.kind) :
    rqParseBody h (writeBody b) = some (expectedBody b, []) := by
  have hl : ∀ p ∈ h, lowerBytes p.1 = p.1 := fun p hp => (hw p hp).2.1
  rw [rq_nameCL, rq_nameTE] at hfr
  unfold rqParseBody rqFraming
  rw [rq_fieldValues_getAll _ _ hl, rq_fieldValues_getAll _ _ hl]
  cases hk : b.kind with
  | empty =>
    rw [hk] at hfr
    obtain ⟨hcl, hte⟩ := Prod.mk.inj hfr
    simp [hcl, hte, writeBody, expectedBody, hk]
  | known n =>
    rw [hk] at hfr
    obtain ⟨hcl, hte⟩ := Prod.mk.inj hfr
    have hlen : b.writes.flatten.length = n := by simpa [BodyM.Honest, hk] using hb
    have htk : List.take n b.writes.flatten = b.writes.flatten := List.take_of_length_le (by omega)
    simp [hcl, hte, rq_natDigits_parse, writeBody, expectedBody, hk, hlen, htk]
  | chunked =>
    rw [hk] at hfr
    obtain ⟨hcl, hte⟩ := Prod.mk.inj hfr
    have hd := (C07_only_last_chunk_is_zero b hk).2.1
    simp [hcl, hte, Framing.lower_chunked, hd, expectedBody, hk, rq_nonEmpty_flatten]

/-- the map `try_prepare` and `set_host` leave is such a map (`hu` is the URL `set_host` was called with) -/
theorem C07_body_roundtrip (s : PrepSettings) (h0 : Headers) (b : BodyM) (hu : Url)
    (hw : (setHost (tryPrepare s h0 b) hu).WFReq) (hb : b.Honest) :
    rqParseBody (setHost (tryPrepare s h0 b) hu) (writeBody b) = some (expectedBody b, []) :=
  C07_body_roundtrip_any _ b hw hb (C07_framing_setHost s h0 b hu).1

/-- (a) for ANY written header map that is well formed and whose framing fields fit the body, either
    target form (`vp` = plain http through a proxy: absolute-form): what holds on every hop of a chain -/
theorem C07_roundtrip_any (m : Bytes) (u : Url) (vp : Bool) (h : Headers) (b : BodyM)
    (hm : rqToken m) (ht : requestTarget u vp ≠ [])
    (ht' : ∀ c ∈ requestTarget u vp, c ≠ 32 ∧ c ≠ 13 ∧ c ≠ 10) (hw : h.WFReq) (hb : b.Honest)
    (hfr : (h.getAll nameCL, h.getAll nameTE) = rqFramingOf b.kind) :
    parseRequest (writeRequest m u vp h b) =
      some ({ method := m, target := requestTarget u vp, headers := h, body := expectedBody b }, []) := by
  unfold writeRequest
  rw [rq_parse_head m (requestTarget u vp) _ _ hm ht ht' hw.head, C07_body_roundtrip_any h b hw hb hfr]

/-- (a), general form: either target form (`vp` = plain http through a proxy: absolute-form), the
    Host field taken from any URL `hu` (the proxy's for plain http through a proxy), and the
    well-formedness hypothesis put on the header map that is actually WRITTEN — so `h0` itself may
    contain anything `tryPrepare` / `setHost` drop (framing fields, a stale Host). -/
theorem C07_roundtrip_gen (m : Bytes) (u hu : Url) (vp : Bool) (s : PrepSettings) (h0 : Headers) (b : BodyM)
    (hm : rqToken m) (ht : requestTarget u vp ≠ [])
    (ht' : ∀ c ∈ requestTarget u vp, c ≠ 32 ∧ c ≠ 13 ∧ c ≠ 10)
    (hw : (setHost (tryPrepare s h0 b) hu).WFReq) (hb : b.Honest) :
    parseRequest (writeRequest m u vp (setHost (tryPrepare s h0 b) hu) b) =
      some ({ method := m, target := requestTarget u vp, headers := setHost (tryPrepare s h0 b) hu,
              body := expectedBody b }, []) :=
  C07_roundtrip_any m u vp _ b hm ht ht' hw hb (C07_framing_setHost s h0 b hu).1

/-- (a) For every method (non-empty token), every URL whose origin-form is non-empty and free of
    SP / CR / LF, every well-formed caller header map, every honest body (known length: the writes
    add up to the announced length; streaming: ANY sequence of writes, empty and huge slices
    included; none), the bytes written are exactly one HTTP/1.1 request: the independent parser
    decodes them to the same method, target, header fields (in order) and body octets, and
    nothing is left over on the connection.
    (`_partial`: the property as stated has no hypothesis on the three values `tryPrepare` / `setHost`
    add verbatim — User-Agent, the body's Content-Type, the authority; without them it is false,
    see `C07_roundtrip_full_refuted`.) -/
theorem C07_roundtrip_partial (m : Bytes) (u : Url) (s : PrepSettings) (h0 : Headers) (b : BodyM)
    (hm : rqToken m) (ht : u.originForm ≠ []) (ht' : ∀ c ∈ u.originForm, c ≠ 32 ∧ c ≠ 13 ∧ c ≠ 10)
    (hh : h0.WFReq) (hua : rqWFValue s.userAgent) (hct : ∀ t, b.contentType = some t → rqWFValue t)
    (hau : rqWFValue u.authority) (hb : b.Honest) :
    parseRequest (writeRequest m u false (setHost (tryPrepare s h0 b) u) b) =
      some ({ method := m, target := u.originForm, headers := setHost (tryPrepare s h0 b) u,
              body := expectedBody b }, []) :=
  C07_roundtrip_gen m u u false s h0 b hm ht ht'
    (rq_WFReq_setHost _ u (rq_WFReq_tryPrepare s h0 b hh hua hct) hau) hb

/-- non-vacuity: POST, streaming body with empty and > 8 KiB slices, caller framing headers -/
example := C07_roundtrip_partial (str "POST") C07.url C07.settings C07.hdrs C07.chunkedBody
  (by decide +kernel) C07.target_ne C07.target_clean C07.hdrs_wf C07.ua_wf
  (by decide +kernel) C07.authority_wf trivial
/-- known length -/
example := C07_roundtrip_partial (str "PUT") C07.url C07.settings C07.hdrs C07.knownBody
  (by decide +kernel) C07.target_ne C07.target_clean C07.hdrs_wf C07.ua_wf
  (by decide +kernel) C07.authority_wf (by decide +kernel)
/-- no body: a `Body` of kind `empty` is not asked to write -/
example : (parseRequest (writeRequest (str "GET") C07.url false
    (setHost (tryPrepare C07.settings C07.hdrs C07.emptyBody) C07.url) C07.emptyBody)).map (fun p => (p.1.body, p.2)) =
    some ([], []) := by
  rw [C07_roundtrip_partial (str "GET") C07.url C07.settings C07.hdrs C07.emptyBody
    (by decide +kernel) C07.target_ne C07.target_clean C07.hdrs_wf C07.ua_wf
    (by decide +kernel) C07.authority_wf trivial]
  rfl
/-- absolute-form target and the Host of another URL (plain http through a proxy) -/
example := C07_roundtrip_gen (str "DELETE") C07.url { C07.url with host := str "proxy.local", port := none } true
  C07.settings C07.hdrs C07.knownBody (by decide +kernel) (by decide +kernel) (by decide +kernel)
  (by decide +kernel) (by decide +kernel)

/-- (a) as the property states it: hypotheses on `h0` only -/
def C07_roundtrip_full : Prop :=
  ∀ (m : Bytes) (u : Url) (s : PrepSettings) (h0 : Headers) (b : BodyM),
    rqToken m → u.originForm ≠ [] → (∀ c ∈ u.originForm, c ≠ 32 ∧ c ≠ 13 ∧ c ≠ 10) → h0.WFReq → b.Honest →
    parseRequest (writeRequest m u false (setHost (tryPrepare s h0 b) u) b) =
      some ({ method := m, target := u.originForm, headers := setHost (tryPrepare s h0 b) u,
              body := expectedBody b }, [])

/-- counterexample: a configured User-Agent with a trailing blank is written verbatim; a reader
    strips optional whitespace around field values, so the field read back is `ua`, not `ua ` -/
theorem C07_roundtrip_full_refuted : ¬ C07_roundtrip_full := by
  intro h
  have := h (str "GET") C07.url { allowCompression := false, userAgent := str "ua " } [] { kind := .empty }
    (by decide +kernel) C07.target_ne C07.target_clean (by decide +kernel) trivial
  revert this
  decide +kernel

/-! ### (a) on the connection: the first hop of `send` -/

/-- (a) for what `send` writes on its first connection when that is not a CONNECT tunnel (direct,
    or plain http through a proxy): exactly one request, decoded back to the caller's method, the
    target of Props/C08, the prepared header fields with the hop's Host, and the body octets. -/
theorem C07_roundtrip_first_hop (S : SendSettings) (req : Req) (cap : Nat) (url : Url) (hop : Hop)
    (rest : List Hop) (s : PrepSettings) (h0 : Headers)
    (hprep : req.headers = tryPrepare s h0 req.body) (htun : rqIsTunnel S url = false)
    (hm : rqToken req.method)
    (ht : requestTarget url (url.scheme == str "http" && (S.proxy.forUrl url).isSome) ≠ [])
    (ht' : ∀ c ∈ requestTarget url (url.scheme == str "http" && (S.proxy.forUrl url).isSome),
      c ≠ 32 ∧ c ≠ 13 ∧ c ≠ 10)
    (hw : (rqHopHeaders S url req.headers).WFReq) (hb : req.body.Honest) :
    ∃ o tail f, send S req cap url (hop :: rest) = (o :: tail, f) ∧
      parseRequest o.wrote =
        some ({ method := req.method,
                target := requestTarget url (url.scheme == str "http" && (S.proxy.forUrl url).isSome),
                headers := rqHopHeaders S url req.headers, body := expectedBody req.body }, []) := by
  obtain ⟨tail, f, h⟩ := rq_sendLoop_plain S req cap hop rest url 0 req.headers true htun
  refine ⟨_, tail, f, h, ?_⟩
  simp only [Rd.rd_plainOut]
  rw [rqHopHeaders_eq, Rd.rd_hopHdrs_eq, hprep] at hw ⊢
  exact C07_roundtrip_gen req.method url _ _ s h0 req.body hm ht ht' hw hb

/-- non-vacuity: `send` through an http proxy; absolute-form target, the proxy's Host -/
example : ∃ o tail f, send C07.viaProxy C07.req 8 C07.url [C07.hop] = (o :: tail, f) ∧
    (parseRequest o.wrote).map (fun p => (p.1.method, p.1.target, p.1.body, p.2)) =
      some (str "POST", str "http://example.com:8080/a/b?x=1&y=%20", str "hello world", []) := by
  obtain ⟨o, tail, f, h, hp⟩ := C07_roundtrip_first_hop C07.viaProxy C07.req 8 C07.url C07.hop [] C07.settings
    C07.hdrs rfl (by decide +kernel) (by decide +kernel) (by decide +kernel) (by decide +kernel)
    (by decide +kernel) (by decide +kernel)
  refine ⟨o, tail, f, h, ?_⟩
  rw [hp]
  decide +kernel

/-! ### necessity of the honesty and value hypotheses (counterexamples, evaluated) -/

/-- a body that announces 5 octets and writes 3: the parser finds no complete request -/
example : parseRequest (writeRequest (str "PUT") C07.url false
    (setHost (tryPrepare C07.settings [] { kind := .known 5, writes := [str "abc"] }) C07.url)
    { kind := .known 5, writes := [str "abc"] }) = none := by decide +kernel
/-- a body that announces 1 octet and writes 3: two octets are left over on the connection -/
example : (parseRequest (writeRequest (str "PUT") C07.url false
    (setHost (tryPrepare C07.settings [] { kind := .known 1, writes := [str "abc"] }) C07.url)
    { kind := .known 1, writes := [str "abc"] })).map (·.2) = some (str "bc") := by decide +kernel
/-- a User-Agent with a trailing blank is not read back identically (OWS is stripped) -/
example : (parseRequest (writeRequest (str "GET") C07.url false
    (setHost (tryPrepare { allowCompression := false, userAgent := str "ua " } [] { kind := .empty }) C07.url)
    { kind := .empty })).map (fun p => p.1.headers.getAll (str "user-agent")) = some [str "ua"] := by
  decide +kernel

end Atto
