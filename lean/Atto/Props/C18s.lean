/-
  Atto/Props/C18s.lean — the staging buffer of `TextReader` (src/parsing/text_reader.rs, model
  `Atto/Model/TextStage.lean`) is transparent: for EVERY decoder `R` honouring the contract of
  `Read::read` (never more bytes than asked), every schedule of caller read sizes and every start
  state satisfying `TextStage.Inv`, the adaptor neither loses, duplicates, reorders nor invents
  anything, never panics by itself, and never asks the decoder for 1..7 bytes.

  Helper lemmas: `Atto/Lemmas/TextStageLemmas.lean` (`evBytes`, `nonOk`, `askSize`, the outcomes of one
  `read`).
-/
import Atto.Lemmas.TextStageLemmas
namespace Atto
open TextStage

variable {σ : Type}

/-! ## concrete decoders for the non-vacuity examples -/

/-- a decoder over a byte string that hands out at most 3 bytes at a time -/
def exR3 : InnerRead Bytes := fun bs n => (.ok (bs.take (min n 3)), bs.drop (min n 3))

/-- the same, but every call whose number is 1 mod 3 fails (`io c`, so that the ORDER of the errors
    is visible) and call number 6 would block -/
def exRflaky : InnerRead (Nat × Bytes) := fun (c, bs) n =>
  if c = 6 then (.blocked, (c + 1, bs))
  else if c % 3 = 1 then (.err (.io c), (c + 1, bs))
  else (.ok (bs.take (min n 3)), (c + 1, bs.drop (min n 3)))

/-- a decoder that breaks the `Read` contract: 9 bytes whatever the buffer -/
def exRbig : InnerRead Unit := fun _ _ => (.ok [1, 2, 3, 4, 5, 6, 7, 8, 9], ())

/-- a decoder that panics -/
def exRpanic : InnerRead Unit := fun _ _ => (.panic, ())

def exText : Bytes := [10, 11, 12, 13, 14, 15, 16, 17, 18, 19, 20, 21]
def exSched : List Nat := [1, 2, 0, 5, 1, 1, 3]

theorem exR3_contract : ∀ i n, ∀ bs, (exR3 i n).1 = .ok bs → bs.length ≤ n := by
  intro i n bs h
  cases h
  exact Nat.le_trans (List.length_take_le _ _) (Nat.min_le_left _ _)

theorem exRflaky_contract : ∀ i n, ∀ bs, (exRflaky i n).1 = .ok bs → bs.length ≤ n := by
  intro i n bs h
  obtain ⟨c, t⟩ := i
  simp only [exRflaky] at h
  split at h
  · cases h
  · split at h
    · cases h
    · cases h
      exact Nat.le_trans (List.length_take_le _ _) (Nat.min_le_left _ _)

theorem exRpanic_contract : ∀ i n, ∀ bs, (exRpanic i n).1 = .ok bs → bs.length ≤ n := by
  intro i n bs h; cases h

/-! ## (1) the invariant; no panic of the adaptor's own -/

/-- (1) `Inv` holds of a fresh `TextReader`, is preserved by `read` and hence by `run` (for ANY
    decoder), and — for a decoder honouring the `Read` contract — `read` returns `.panic` only if the
    decoder call it made did: the `usize` subtraction and the slice indexing of the Rust code are
    unreachable. -/
theorem C18_stage_inv (R : InnerRead σ)
    (hR : ∀ i n, ∀ bs, (R i n).1 = .ok bs → bs.length ≤ n) :
    (∀ i : σ, ({ inner := i } : TextStage σ).Inv)
    ∧ (∀ (s : TextStage σ) (n : Nat), s.Inv → (s.read R n).2.Inv)
    ∧ (∀ (s : TextStage σ) (ns : List Nat), s.Inv → (TextStage.run R s ns).2.Inv)
    ∧ (∀ (s : TextStage σ) (n : Nat), s.Inv → (s.read R n).1 = .panic →
        (R s.inner n).1 = .panic ∨ (R s.inner stageCap).1 = .panic) :=
  ⟨inv_fresh, fun s n hI => read_inv R s n hI, fun s ns hI => run_inv R s ns hI,
   fun s n hI hp => read_panic R hR s n hI hp⟩

/-- the invariant part needs no assumption on the decoder at all -/
theorem C18_stage_inv_any (R : InnerRead σ) (s : TextStage σ) (hI : s.Inv) :
    (∀ n, (s.read R n).2.Inv) ∧ (∀ ns, (TextStage.run R s ns).2.Inv) :=
  ⟨fun n => read_inv R s n hI, fun ns => run_inv R s ns hI⟩

/-- consequence over a whole schedule: a decoder that never panics gives a run without `.panic` -/
theorem C18_stage_run_no_panic (R : InnerRead σ)
    (hR : ∀ i n, ∀ bs, (R i n).1 = .ok bs → bs.length ≤ n)
    (hP : ∀ i n, (R i n).1 ≠ .panic)
    (s : TextStage σ) (hI : s.Inv) (ns : List Nat) :
    ∀ ev ∈ (TextStage.run R s ns).1, ev ≠ .panic := by
  induction ns generalizing s with
  | nil => intro ev h; cases h
  | cons n ns ih =>
    intro ev h
    rw [run_cons] at h
    rcases List.mem_cons.mp h with h | h
    · subst h
      intro hp
      exact (read_panic R hR s n hI hp).elim (hP _ _) (hP _ _)
    · exact ih _ (read_inv R s n hI) ev h

-- non-vacuity: the invariant of a concrete run, a panic that IS the decoder's, and the necessity of
-- `hR` (a decoder returning 9 bytes for an 8-byte buffer makes the adaptor panic by itself)
example : (TextStage.run exR3 { inner := exText } exSched).2.Inv :=
  (C18_stage_inv exR3 exR3_contract).2.2.1 _ _ ((C18_stage_inv exR3 exR3_contract).1 _)
example : (TextStage.run exR3 { inner := exText } exSched).2.staged = [16, 17, 18]
    ∧ (TextStage.run exR3 { inner := exText } exSched).2.pos = 3 := by decide +kernel
example : (TextStage.read exRpanic { inner := () } 2).1 = .panic
    ∧ (exRpanic () stageCap).1 = .panic := ⟨rfl, rfl⟩
example : (exRpanic () 2).1 = .panic ∨ (exRpanic () stageCap).1 = .panic :=
  (C18_stage_inv exRpanic exRpanic_contract).2.2.2 { inner := () } 2 (inv_fresh ()) rfl
example : (TextStage.read exRbig { inner := () } 2).1 = .panic
    ∧ (exRbig () 2).1 ≠ .panic ∧ (exRbig () stageCap).1 ≠ .panic
    ∧ ¬ (∀ i n, ∀ bs, (exRbig i n).1 = .ok bs → bs.length ≤ n) :=
  ⟨rfl, (fun h => by cases h), (fun h => by cases h),
   fun h => absurd (h () 8 _ rfl) (by decide)⟩
example : ∀ ev ∈ (TextStage.run exRflaky { inner := (0, exText) } exSched).1, ev ≠ .panic :=
  C18_stage_run_no_panic exRflaky exRflaky_contract
    (by
      intro i n h
      obtain ⟨c, t⟩ := i
      simp only [exRflaky] at h
      split at h
      · cases h
      · split at h <;> cases h)
    _ (inv_fresh _) _

/-! ## (2) the adaptor honours the `Read` contract itself -/

/-- (2) an `Ok` result never holds more bytes than the caller's buffer (`Inv` is not needed). -/
theorem C18_stage_le (R : InnerRead σ)
    (hR : ∀ i n, ∀ bs, (R i n).1 = .ok bs → bs.length ≤ n)
    (s : TextStage σ) (n : Nat) (bs : Bytes) (h : (s.read R n).1 = .ok bs) : bs.length ≤ n := by
  refine read_elim R s n (motive := fun r => r.1 = .ok bs → bs.length ≤ n)
    ?served ?underflow ?staged ?tooLong ?forwarded h
  case served =>
    intro _ h
    cases h
    exact List.length_take_le _ _
  case underflow => exact fun _ h => nomatch h
  case staged =>
    intro bs' _ _ _ _ h
    cases h
    exact List.length_take_le _ _
  case tooLong => exact fun _ _ _ _ _ h => nomatch h
  case forwarded =>
    intro _ hf h
    rcases hf with hk | hn
    · exact hk ▸ hR _ _ _ h
    · rw [h] at hn; cases hn

example : (TextStage.read exR3 { inner := exText } 2).1 = .ok [10, 11] := rfl
example : ([10, 11] : Bytes).length ≤ 2 :=
  C18_stage_le exR3 exR3_contract { inner := exText } 2 _ rfl
-- from the staging buffer, with more room than staged bytes
example : (TextStage.read exR3 { inner := [], staged := [1, 2, 3], pos := 1 } 3).1 = .ok [2, 3] := rfl

/-! ## (3) transparency -/

/-- (3) MAIN THEOREM.  For every decoder honouring the `Read` contract, every start state satisfying
    `Inv` and every schedule of caller read sizes: what was staged before plus what the bare decoder
    yields over the sizes it is asked for is exactly what the caller got plus what is still staged;
    the decoder ends in the same state; and the errors / blocked / panic events are the same list in
    the same order. -/
theorem C18_stage_transparent (R : InnerRead σ)
    (hR : ∀ i n, ∀ bs, (R i n).1 = .ok bs → bs.length ≤ n)
    (s : TextStage σ) (hI : s.Inv) (ns : List Nat) :
    s.pending ++ okBytes (runInner R s.inner (TextStage.innerSizes R s ns)).1
        = okBytes (TextStage.run R s ns).1 ++ (TextStage.run R s ns).2.pending
    ∧ (TextStage.run R s ns).2.inner = (runInner R s.inner (TextStage.innerSizes R s ns)).2
    ∧ nonOk (TextStage.run R s ns).1
        = nonOk (runInner R s.inner (TextStage.innerSizes R s ns)).1 := by
  induction ns generalizing s with
  | nil => exact ⟨List.append_nil _, rfl, rfl⟩
  | cons n ns ih =>
    obtain ⟨hb, hi, hn, hInv⟩ := step R hR s hI n
    obtain ⟨ih1, ih2, ih3⟩ := ih _ hInv
    rw [run_cons, innerSizes_cons_append, runInner_append, ← hi]
    refine ⟨?_, ih2, ?_⟩
    · simp only [okBytes_append, okBytes_cons]
      rw [← List.append_assoc, hb, List.append_assoc, ih1, List.append_assoc]
    · simp only [nonOk_append]
      rw [nonOk_cons, hn, ih3]

-- non-vacuity: the healthy 3-byte decoder
example : (TextStage.run exR3 { inner := exText } exSched).1
    = [.ok [10], .ok [11, 12], .ok [], .ok [13, 14, 15], .ok [16], .ok [17], .ok [18]] := rfl
example : TextStage.innerSizes exR3 { inner := exText } exSched = [8, 0, 8, 8] := by decide +kernel
example : (runInner exR3 exText [8, 0, 8, 8]).1
    = [.ok [10, 11, 12], .ok [], .ok [13, 14, 15], .ok [16, 17, 18]] := rfl
example : okBytes (TextStage.run exR3 { inner := exText } exSched).1
      ++ (TextStage.run exR3 { inner := exText } exSched).2.pending
    = [10, 11, 12, 13, 14, 15, 16, 17, 18] := by decide +kernel
-- a flaky decoder, started with two bytes already staged: errors and the block come through in order
def exStart : TextStage (Nat × Bytes) :=
  { inner := (0, exText ++ [22, 23, 24, 25]), staged := [7, 8, 9], pos := 1 }
def exSched2 : List Nat := [1, 2, 1, 1, 5, 2, 3, 2, 2, 2, 4, 1, 1, 2]
theorem exStart_inv : exStart.Inv := by constructor <;> decide
example : (TextStage.run exRflaky exStart exSched2).1
    = [.ok [8], .ok [9], .ok [10], .ok [11], .ok [12], .err (.io 1), .ok [13, 14, 15], .ok [16, 17],
       .ok [18], .err (.io 4), .ok [19, 20, 21], .blocked, .err (.io 7), .ok [22, 23]] := rfl
example : TextStage.innerSizes exRflaky exStart exSched2 = [8, 8, 8, 8, 8, 8, 8, 8, 8] := by decide +kernel
example : (runInner exRflaky exStart.inner [8, 8, 8, 8, 8, 8, 8, 8, 8]).1
    = [.ok [10, 11, 12], .err (.io 1), .ok [13, 14, 15], .ok [16, 17, 18], .err (.io 4),
       .ok [19, 20, 21], .blocked, .err (.io 7), .ok [22, 23, 24]] := rfl
example : nonOk (TextStage.run exRflaky exStart exSched2).1
    = [.err (.io 1), .err (.io 4), .blocked, .err (.io 7)] := rfl
example :
    exStart.pending = [8, 9]
    ∧ okBytes (TextStage.run exRflaky exStart exSched2).1
      = [8, 9, 10, 11, 12, 13, 14, 15, 16, 17, 18, 19, 20, 21, 22, 23]
    ∧ (TextStage.run exRflaky exStart exSched2).2.pending = [24]
    ∧ (TextStage.run exRflaky exStart exSched2).2.inner = (9, [25]) := by decide +kernel
example := C18_stage_transparent exRflaky exRflaky_contract exStart exStart_inv exSched2
-- `hR` is necessary: with the contract-breaking decoder the adaptor turns an `Ok` into a panic
example : nonOk (TextStage.run exRbig { inner := () } [1]).1 = [.panic]
    ∧ nonOk (runInner exRbig () (TextStage.innerSizes exRbig { inner := () } [1])).1 = [] :=
  ⟨rfl, rfl⟩
-- `Inv` is necessary: a state with `pos` beyond the staged bytes panics without any decoder call
example : nonOk (TextStage.run exR3 { inner := exText, staged := [1], pos := 2 } [1]).1 = [.panic]
    ∧ TextStage.innerSizes exR3 { inner := exText, staged := [1], pos := 2 } [1] = [] :=
  ⟨rfl, rfl⟩

/-! ## (4) end of stream is never invented -/

/-- (4) a caller read with a non-empty buffer answers `Ok(0)` only when nothing is staged and the
    decoder itself answered `Ok(0)` to the call made (neither `hR` nor `Inv` is needed). -/
theorem C18_stage_progress (R : InnerRead σ) (s s' : TextStage σ) (n : Nat) (hn : 0 < n)
    (h : s.read R n = (.ok [], s')) :
    s.pending = [] ∧ (R s.inner (if stageMin ≤ n then n else stageCap)).1 = .ok [] := by
  have hn0 : n ≠ 0 := Nat.pos_iff_ne_zero.mp hn
  rw [show (if stageMin ≤ n then n else stageCap) = askSize n by simp [askSize, hn0]]
  refine read_elim R s n (motive := fun r => r.1 = .ok [] → _)
    ?served ?underflow ?staged ?tooLong ?forwarded (congrArg Prod.fst h)
  case served =>
    intro hlt h
    simp only [RR.ok.injEq, List.take_eq_nil_iff, hn0, false_or] at h
    have : s.staged.length - s.pos = 0 := (pending_length s).symm.trans (congrArg List.length h)
    omega
  case underflow => exact fun _ h => nomatch h
  case staged =>
    intro bs h1 hr _ _ h
    simp only [RR.ok.injEq, List.take_eq_nil_iff, hn0, false_or] at h
    exact ⟨pending_of_pos_eq h1, by rw [hr, h]⟩
  case tooLong => exact fun _ _ _ _ _ h => nomatch h
  case forwarded => exact fun h1 _ h => ⟨pending_of_pos_eq h1, h⟩

-- non-vacuity: the hypothesis is satisfiable (exhausted decoder), small and large caller buffer
example : TextStage.read exR3 { inner := [] } 2 = (.ok [], { inner := [] }) := rfl
example : ({ inner := [] } : TextStage Bytes).pending = [] ∧ (exR3 [] stageCap).1 = .ok [] :=
  C18_stage_progress exR3 { inner := [] } { inner := [] } 2 (by decide) rfl
example : ({ inner := [] } : TextStage Bytes).pending = [] ∧ (exR3 [] 6).1 = .ok [] :=
  C18_stage_progress exR3 { inner := [] } { inner := [] } 6 (by decide) rfl
-- `0 < n` is necessary: an empty caller buffer gets `Ok(0)` while bytes are staged
example : (TextStage.read exR3 { inner := exText, staged := [1, 2], pos := 1 } 0).1 = .ok []
    ∧ ({ inner := exText, staged := [1, 2], pos := 1 } : TextStage Bytes).pending = [2] :=
  ⟨rfl, rfl⟩

/-! ## (5) the point of the fix: the decoder never sees a 1..7-byte buffer -/

/-- (5) every size the decoder is asked for is 0 (the caller's buffer was empty) or at least 8; no
    assumption on the decoder, the start state or the schedule. -/
theorem C18_stage_small_reads_ask_big (R : InnerRead σ) (s : TextStage σ) (ns : List Nat) :
    ∀ k ∈ TextStage.innerSizes R s ns, k = 0 ∨ stageMin ≤ k := by
  intro k h
  obtain ⟨n, _, rfl⟩ := List.mem_map.mp ((innerSizes_sublist R s ns).subset h)
  exact askSize_spec n

/-- the sizes are, more precisely, the caller's own size when it is 0 or ≥ 8 and 8 otherwise — and a
    size of 0 is only ever asked on behalf of a caller whose buffer is empty -/
theorem C18_stage_sizes_from_schedule (R : InnerRead σ) (s : TextStage σ) (ns : List Nat) :
    ∀ k ∈ TextStage.innerSizes R s ns, k = stageCap ∨ (k ∈ ns ∧ (k = 0 ∨ stageMin ≤ k)) := by
  intro k h
  obtain ⟨n, hn, rfl⟩ := List.mem_map.mp ((innerSizes_sublist R s ns).subset h)
  rcases askSize_eq n with ⟨e, hp⟩ | e
  · rw [e]; exact .inr ⟨hn, hp⟩
  · exact .inl e

example : TextStage.innerSizes exR3 { inner := exText } exSched = [8, 0, 8, 8] := by decide +kernel
example : ∀ k ∈ ([8, 0, 8, 8] : List Nat), k = 0 ∨ stageMin ≤ k :=
  C18_stage_small_reads_ask_big exR3 { inner := exText } exSched
-- a schedule of one-byte reads only: the decoder sees nothing but 8-byte buffers
example : TextStage.innerSizes exR3 { inner := exText } [1, 1, 1, 1, 1, 1, 1, 1] = [8, 8, 8] := by
  decide +kernel

/-! ## (6) the split into reads does not matter -/

/-- a pure byte-stream decoder yields its string: what it handed out plus what it still holds -/
theorem runInner_stream (R : InnerRead Bytes)
    (hS : ∀ i n, ∃ k, k ≤ n ∧ (0 < n → i ≠ [] → 0 < k) ∧ R i n = (.ok (i.take k), i.drop k))
    (i : Bytes) (ks : List Nat) :
    okBytes (runInner R i ks).1 ++ (runInner R i ks).2 = i := by
  induction ks generalizing i with
  | nil => rfl
  | cons n ks ih =>
    obtain ⟨k, _, _, he⟩ := hS i n
    rw [runInner_cons, he]
    simp only [okBytes, List.append_assoc]
    rw [ih, List.take_append_drop]

/-- (6) for a decoder that is a pure byte stream over `text` (handing out SOME prefix of what is
    left, of a length that may depend on the state and the size asked in any way), whatever the
    caller's read sizes: what was handed out, then what is staged, then what the decoder still holds
    is exactly `text`. -/
theorem C18_stage_split_independent (R : InnerRead Bytes)
    (hS : ∀ i n, ∃ k, k ≤ n ∧ (0 < n → i ≠ [] → 0 < k) ∧ R i n = (.ok (i.take k), i.drop k))
    (text : Bytes) (ns : List Nat) :
    okBytes (TextStage.run R { inner := text } ns).1
      ++ (TextStage.run R { inner := text } ns).2.pending
      ++ (TextStage.run R { inner := text } ns).2.inner = text := by
  have hR : ∀ i n, ∀ bs, (R i n).1 = .ok bs → bs.length ≤ n := by
    intro i n bs h
    obtain ⟨k, hk, _, he⟩ := hS i n
    rw [he] at h
    cases h
    exact Nat.le_trans (List.length_take_le _ _) hk
  obtain ⟨h1, h2, _⟩ := C18_stage_transparent R hR { inner := text } (inv_fresh text) ns
  rw [← h1, h2]
  exact runInner_stream R hS text _

/-- the same, read as independence of the split: two schedules whatsoever account for the same
    string -/
theorem C18_stage_split_independent' (R : InnerRead Bytes)
    (hS : ∀ i n, ∃ k, k ≤ n ∧ (0 < n → i ≠ [] → 0 < k) ∧ R i n = (.ok (i.take k), i.drop k))
    (text : Bytes) (ns ms : List Nat) :
    okBytes (TextStage.run R { inner := text } ns).1
      ++ (TextStage.run R { inner := text } ns).2.pending
      ++ (TextStage.run R { inner := text } ns).2.inner
    = okBytes (TextStage.run R { inner := text } ms).1
      ++ (TextStage.run R { inner := text } ms).2.pending
      ++ (TextStage.run R { inner := text } ms).2.inner := by
  rw [C18_stage_split_independent R hS text ns, C18_stage_split_independent R hS text ms]

theorem exR3_stream :
    ∀ i n, ∃ k, k ≤ n ∧ (0 < n → i ≠ [] → 0 < k) ∧ exR3 i n = (.ok (i.take k), i.drop k) := by
  intro i n
  refine ⟨min n 3, Nat.min_le_left _ _, ?_, rfl⟩
  intro h _
  omega

example : okBytes (TextStage.run exR3 { inner := exText } exSched).1
      = [10, 11, 12, 13, 14, 15, 16, 17, 18]
    ∧ (TextStage.run exR3 { inner := exText } exSched).2.pending = []
    ∧ (TextStage.run exR3 { inner := exText } exSched).2.inner = [19, 20, 21] := by decide +kernel
example : okBytes (TextStage.run exR3 { inner := exText } [1, 1, 7, 2]).1 = [10, 11, 12, 13, 14]
    ∧ (TextStage.run exR3 { inner := exText } [1, 1, 7, 2]).2.pending = [15]
    ∧ (TextStage.run exR3 { inner := exText } [1, 1, 7, 2]).2.inner = [16, 17, 18, 19, 20, 21] := by
  decide +kernel
example := C18_stage_split_independent exR3 exR3_stream exText exSched

/-- (tie to the source) the staging buffer, whose size is regenerated from `text_reader.rs` on every run,
    has room for the largest piece the decoder writes in one go when it flushes at the end of the stream
    (two replacement characters, 6 bytes, for ISO-2022-JP — `encoding_rs`, third-party, see DESIGN §5),
    and a read is served from it exactly when it has less room than that buffer. -/
theorem C18_stage_cap : 6 ≤ stageCap ∧ stageMin = stageCap ∧ stageCap = Consts.textStageCap := by
  decide

end Atto
