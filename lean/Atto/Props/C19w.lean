/-
  Atto/Props/C19w.lean — C19 for `Response::write_to(writer)` = `io::copy(&mut body, &mut writer)`:
  body data is handed to the caller's writer AS IT ARRIVES. Stated on the trace model `copyTrace`
  (Model/Copy.lean: every `read` of the body with its result and every `write_all` on the writer, in
  order) over the real pipeline (`parseResponse` on an arbitrary well-formed scripted transport `t`,
  constrained only through `flatT t`):
  * (w1) nothing is held back: a non-empty `Ok` read is followed at once by the `write_all` of the
    same bytes, and nothing else is ever written;
  * (w2) the trace agrees with the drain model `drainLoop` (which keeps only the accumulator);
  * (w3), (w4) when the peer goes silent after `x` (Content-Length / close-delimited) or after the
    complete chunks `cs` (chunked), everything that has arrived is with the writer when the copy
    goes back to the connection that has nothing more (the trace ends with the read that cannot
    return), and (w4') the same bound when the peer goes silent inside a chunk.
-/
import Atto.Lemmas.CopyTrace
import Atto.Lemmas.ExampleFacts
import Atto.Lemmas.Str
namespace Atto

local notation "L" => Consts.maxLineLen
local notation "CL" => Consts.chunkSizeLineLimit

/-! ## (w1) nothing is held back -/

/-- (w1) In any trace of `io::copy` on any body in any state: a `read` that returned bytes is
    followed AT ONCE by the `write_all` of exactly these bytes (before any other read); every
    `write_all` is that of the read just before it; hence the writer has been given exactly what
    the reads returned, in order; and the reads are the first results of the constant schedule
    `sz, sz, …` (the copy issues no other read). -/
theorem C19w_nothing_held_back (maxBuf sz fuel : Nat) (b : Body) :
    let tr := copyTrace maxBuf sz fuel b
    (∀ i bs, tr[i]? = some (.read (.ok bs)) → bs ≠ [] → tr[i+1]? = some (.wrote bs)) ∧
    (∀ i bs, tr[i]? = some (.wrote bs) →
      ∃ j, i = j + 1 ∧ tr[j]? = some (.read (.ok bs)) ∧ bs ≠ []) ∧
    writtenOf tr = readOf tr ∧ readOf tr = deliveredEv (readsOf tr) ∧
    readsOf tr <+: (reads maxBuf (List.replicate fuel sz) b).1 := by
  intro tr
  have htr : tr = Cp.traceEv (reads maxBuf (List.replicate fuel sz) b).1 :=
    Cp.copyTrace_eq maxBuf sz fuel b
  rw [htr]
  exact ⟨Cp.traceEv_next _, Cp.traceEv_prev _, Cp.writtenOf_traceEv _, Cp.readOf_eq _,
    Cp.readsOf_traceEv_prefix _⟩

/-! ## (w2) agreement with the drain model -/

/-- (w2) `drainLoop` (the model of `io::copy` / `read_to_end` that keeps only the accumulated bytes)
    started with the accumulator `acc0` ends the way the trace ends: on `Ok acc`, the trace ends
    with the read that returned `Ok(0)` and `acc` is `acc0` followed by what the writer got; on an
    error / a stall the trace ends with the read that returned it (`drainLoop` then drops its
    accumulator — see `C19w_accumulated` for it); `panic` is a panicking read or fuel exhaustion
    (all `fuel` reads of the schedule were performed). -/
theorem C19w_drain_agrees (maxBuf sz fuel : Nat) (b : Body) (acc0 : Bytes) :
    let tr := copyTrace maxBuf sz fuel b
    let res := (drainLoop maxBuf sz fuel b acc0).1
    (∀ acc, res = .ok acc →
      acc = acc0 ++ writtenOf tr ∧ tr.getLast? = some (.read (.ok []))) ∧
    (∀ e, res = .err e → tr.getLast? = some (.read (.err e)) ∧ e ≠ .io 0) ∧
    (res = .blocked → tr.getLast? = some (.read .blocked)) ∧
    (res = .panic → tr.getLast? = some (.read .panic) ∨
      readsOf tr = (reads maxBuf (List.replicate fuel sz) b).1) := by
  intro tr res
  have htr : tr = Cp.traceEv (reads maxBuf (List.replicate fuel sz) b).1 :=
    Cp.copyTrace_eq maxBuf sz fuel b
  have hres : res = Dr.drEv (reads maxBuf (List.replicate fuel sz) b).1 acc0 :=
    Dr.drainLoop_eq maxBuf sz fuel b acc0
  rw [htr, hres]
  exact Cp.drEv_trace _ acc0

/-- (w2), the form asked for: whenever `drainLoop … [] = (Ok acc, b')`, the writer of the trace got
    exactly `acc` and the trace ends with the read that returned `Ok(0)` -/
theorem C19w_drain_ok (maxBuf sz fuel : Nat) (b b' : Body) (acc : Bytes)
    (h : drainLoop maxBuf sz fuel b [] = (.ok acc, b')) :
    writtenOf (copyTrace maxBuf sz fuel b) = acc ∧
    (copyTrace maxBuf sz fuel b).getLast? = some (.read (.ok [])) := by
  obtain ⟨h1, h2⟩ := (C19w_drain_agrees maxBuf sz fuel b []).1 acc (by rw [h])
  exact ⟨by simpa using h1.symm, h2⟩

/-- `drainLoop` with the accumulator returned however the loop ends (`drainLoop` itself drops it
    unless the result is `Ok`) -/
def drainAcc (maxBuf sz : Nat) : Nat → Body → Bytes → RR Unit × Bytes
  | 0, _, acc => (.panic, acc)
  | fuel+1, b, acc =>
    match b.read maxBuf sz with
    | (.ok [], _) => (.ok (), acc)
    | (.ok bs, b') => drainAcc maxBuf sz fuel b' (acc ++ bs)
    | (.err (.io 0), b') => drainAcc maxBuf sz fuel b' acc
    | (.err e, _) => (.err e, acc)
    | (.blocked, _) => (.blocked, acc)
    | (.panic, _) => (.panic, acc)

/-- (w2) for the runs that do not end with `Ok`: `drainAcc` is `drainLoop` (same result), and its
    accumulator at the moment the loop ends — with `Ok(0)`, an error, a stall, a panic or no fuel —
    is `acc0` followed by exactly what the writer of the trace got. -/
theorem C19w_accumulated (maxBuf sz : Nat) : ∀ (fuel : Nat) (b : Body) (acc0 : Bytes),
    drainAcc maxBuf sz fuel b acc0 =
      ((drainLoop maxBuf sz fuel b acc0).1.map (fun _ => ()),
        acc0 ++ writtenOf (copyTrace maxBuf sz fuel b)) := by
  intro fuel b acc0
  fun_induction drainAcc maxBuf sz fuel b acc0 with
  | case1 => simp [drainLoop, copyTrace, writtenOf]
  | case3 fuel b acc bs b' hb h ih =>
    rw [ih, drainLoop, copyTrace, h]
    cases bs with
    | nil => exact absurd rfl hb
    | cons x xs => simp [writtenOf]
  | case4 fuel b acc b' h ih => rw [ih, drainLoop, copyTrace, h]; simp [writtenOf]
  | case5 fuel b acc e b' he h =>
    rw [drainLoop, copyTrace, h]
    cases e with
    | io k =>
      cases k with
      | zero => exact absurd rfl he
      | succ k => simp [writtenOf]
    | _ => simp [writtenOf]
  | case2 fuel b acc b' h | case6 fuel b acc b' h | case7 fuel b acc b' h =>
    rw [drainLoop, copyTrace, h]; simp [writtenOf]

/-! ## (w3) Content-Length / close-delimited: the peer goes silent after `x` -/

/-- (w3) `Content-Length` (`o = some n`, `x` within the announced length) or close-delimited
    (`o = none`) body of which `x` has arrived, then the peer is silent for ever (`pause`; what the
    script holds after it, `rest`, is never reached). With a copy buffer of `sz > 0` bytes and any
    fuel of at least `x.length + 1` reads: EVERYTHING THAT HAS ARRIVED IS WITH THE WRITER —
    `writtenOf = x` — and the trace ends with the read that cannot return (`blocked`); unless `x`
    is the complete announced body (`o = some x.length`), when it ends with `Ok(0)`. -/
theorem C19w_length_close (h : HeadS) (x : Bytes) (o : Option Nat) (rest : List Item)
    (t : Transport) (cap maxBuf mh : Nat) (m : Method) (sz : Nat)
    (hwf : wfT t) (hcap : 0 < cap) (hh : h.WF L)
    (hmh : h.fields.length ≤ mh) (hms : h.fields.length ≤ Headers.maxSize)
    (hnb : bodyless m h.code = false) (hch : isChunked h.seen = false)
    (hcl : isContentLength h.seen = .ok o) (hx : ∀ n, o = some n → x.length ≤ n)
    (hsz : 0 < sz)
    (hflat : flatT t = bytesI (h.render ++ x) ++ .pause :: rest) :
    ∃ resp, parseResponse m mh cap t = .ok resp ∧
      ∀ fuel, x.length + 1 ≤ fuel →
        writtenOf (copyTrace maxBuf sz fuel resp.body) = x ∧
        (copyTrace maxBuf sz fuel resp.body).getLast? =
          some (.read (if o = some x.length then .ok [] else .blocked)) := by
  have hs : ∀ d, Stable d (.pause :: rest) := fun _ => .inr fun _ _ h => by cases h
  cases o with
  | none =>
    obtain ⟨r1, hok, hfl, hp⟩ := parseResponse_framed h hh x _ t cap mh hwf hcap hmh hms hflat
      (chooseFraming_close hnb hch hcl)
    refine ⟨_, hp, fun fuel hfuel => ?_⟩
    exact Cp.exact_trace maxBuf hsz (Exact.close hok hfl trivial) (hs none) fuel hfuel
  | some n =>
    obtain ⟨r1, hok, hfl, hp⟩ := parseResponse_framed h hh x _ t cap mh hwf hcap hmh hms hflat
      (chooseFraming_length hnb hch hcl)
    refine ⟨_, hp, fun fuel hfuel => ?_⟩
    have hxn := hx n rfl
    have := Cp.exact_trace maxBuf hsz (Exact.length (lim := n) (k := n - x.length) hok (by omega)
      hfl fun _ => trivial) (hs _) fuel hfuel
    by_cases hn : n = x.length
    · subst hn
      rw [Nat.sub_self] at this
      rw [if_pos rfl]
      exact this
    · rw [if_neg (fun h => hn (Option.some.inj h))]
      obtain ⟨k, hk⟩ : ∃ k, n - x.length = k + 1 := ⟨n - x.length - 1, by omega⟩
      rw [hk] at this
      exact this

/-! ## (w4) chunked: the peer goes silent after the complete chunks `cs` -/

/-- (w4) chunked body, the chunks `cs` have arrived completely (each with its CRLF), then the peer
    is silent for ever. With any fuel of at least `(payloadOf cs).length + 1` reads: the data of
    all the chunks that have arrived is with the writer — `writtenOf = payloadOf cs` — and the
    trace ends with the read that cannot return. -/
theorem C19w_chunked (h : HeadS) (cs : List ChunkS) (rest : List Item)
    (t : Transport) (cap maxBuf mh : Nat) (m : Method) (sz : Nat)
    (hwf : wfT t) (hcap : 0 < cap) (hmb : 0 < maxBuf) (hh : h.WF L)
    (hcs : ∀ c ∈ cs, c.WF CL)
    (hmh : h.fields.length ≤ mh) (hms : h.fields.length ≤ Headers.maxSize)
    (hnb : bodyless m h.code = false) (hch : isChunked h.seen = true)
    (hsz : 0 < sz)
    (hflat : flatT t = bytesI (h.render ++ encChunks cs) ++ .pause :: rest) :
    ∃ resp, parseResponse m mh cap t = .ok resp ∧
      ∀ fuel, (payloadOf cs).length + 1 ≤ fuel →
        writtenOf (copyTrace maxBuf sz fuel resp.body) = payloadOf cs ∧
        (copyTrace maxBuf sz fuel resp.body).getLast? = some (.read .blocked) := by
  obtain ⟨r1, hok, hfl, hp⟩ := parseResponse_framed h hh _ (.pause :: rest) t cap mh hwf hcap hmh hms hflat
    (chooseFraming_chunked hnb hch)
  refine ⟨_, hp, ?_⟩
  intro fuel hfuel
  show writtenOf (copyTrace maxBuf sz fuel (.chunked { inner := r1 })) = _ ∧
    (copyTrace maxBuf sz fuel (.chunked { inner := r1 })).getLast? = _
  rw [Cp.copyTrace_chunked_flat r1 hok, hfl]
  exact Cp.chunk_stall_trace maxBuf sz hmb hsz rest fuel _ _ (rep_fresh cs hcs _) hfuel

/-- (w4') chunked body, the chunks `cs` have arrived completely, then only a strict prefix `part` of
    the next chunk `c` (anything from nothing to all but its final LF), then the connection is
    `Dead` (silent for ever, closed, or failing with an error other than Interrupted). All the data
    of the complete chunks is with the writer, possibly followed by data of the cut chunk (the
    decoder hands out the data of a chunk in pieces of up to `maxBuf` bytes as they arrive, before
    the chunk is complete) and nothing else; the copy ends in the read that stalls or fails. -/
theorem C19w_chunked_cut_in_chunk (h : HeadS) (cs : List ChunkS) (c : ChunkS) (part : Bytes)
    (tailItems : List Item)
    (t : Transport) (cap maxBuf mh : Nat) (m : Method) (sz : Nat)
    (hwf : wfT t) (hcap : 0 < cap) (hmb : 0 < maxBuf) (hh : h.WF L)
    (hcs : ∀ c ∈ cs, c.WF CL) (hc : c.WF CL)
    (hlen : part.length < c.enc.length) (hpre : part <+: c.enc) (ht : Dead tailItems)
    (hmh : h.fields.length ≤ mh) (hms : h.fields.length ≤ Headers.maxSize)
    (hnb : bodyless m h.code = false) (hch : isChunked h.seen = true)
    (hsz : 0 < sz)
    (hflat : flatT t = bytesI (h.render ++ encChunks cs ++ part) ++ tailItems) :
    ∃ resp, parseResponse m mh cap t = .ok resp ∧
      ∀ fuel, (payloadOf cs).length + c.data.length + 2 ≤ fuel →
        let tr := copyTrace maxBuf sz fuel resp.body
        (∃ w, writtenOf tr = payloadOf cs ++ w ∧ w <+: c.data) ∧
        (tr.getLast? = some (.read .blocked) ∨
          ∃ e, e ≠ .io 0 ∧ tr.getLast? = some (.read (.err e))) := by
  obtain ⟨r1, hok, hfl, hp⟩ := parseResponse_framed h hh _ tailItems t cap mh hwf hcap hmh hms
    (by rw [hflat, List.append_assoc]) (chooseFraming_chunked hnb hch)
  refine ⟨_, hp, ?_⟩
  intro fuel hfuel
  have key := Cp.cut_trace maxBuf sz hmb hsz tailItems ht c.data part
    (fun c' => trep_chunk tailItems c' [] part c hc hlen hpre) fuel (fresh r1.flat) _
    (by rw [hfl, bytesI_append, List.append_assoc]; exact rep_fresh cs hcs _) hfuel
  rw [← Cp.copyTrace_chunked_flat r1 hok] at key
  exact key

/-- (w4') the stream is cut inside the last-chunk (or its trailer section): the writer has exactly
    the data of the complete chunks. -/
theorem C19w_chunked_cut_in_last (h : HeadS) (cs : List ChunkS) (l : LastS) (part : Bytes)
    (tailItems : List Item)
    (t : Transport) (cap maxBuf mh : Nat) (m : Method) (sz : Nat)
    (hwf : wfT t) (hcap : 0 < cap) (hmb : 0 < maxBuf) (hh : h.WF L)
    (hcs : ∀ c ∈ cs, c.WF CL) (hl : l.WF CL)
    (hlen : part.length < l.enc.length) (hpre : part <+: l.enc) (ht : Dead tailItems)
    (hmh : h.fields.length ≤ mh) (hms : h.fields.length ≤ Headers.maxSize)
    (hnb : bodyless m h.code = false) (hch : isChunked h.seen = true)
    (hsz : 0 < sz)
    (hflat : flatT t = bytesI (h.render ++ encChunks cs ++ part) ++ tailItems) :
    ∃ resp, parseResponse m mh cap t = .ok resp ∧
      ∀ fuel, (payloadOf cs).length + 2 ≤ fuel →
        let tr := copyTrace maxBuf sz fuel resp.body
        writtenOf tr = payloadOf cs ∧
        (tr.getLast? = some (.read .blocked) ∨
          ∃ e, e ≠ .io 0 ∧ tr.getLast? = some (.read (.err e))) := by
  obtain ⟨r1, hok, hfl, hp⟩ := parseResponse_framed h hh _ tailItems t cap mh hwf hcap hmh hms
    (by rw [hflat, List.append_assoc]) (chooseFraming_chunked hnb hch)
  refine ⟨_, hp, ?_⟩
  intro fuel hfuel
  have key := Cp.cut_trace maxBuf sz hmb hsz tailItems ht [] part
    (fun c' => trep_last tailItems c' [] part l hl hlen hpre) fuel (fresh r1.flat) _
    (by rw [hfl, bytesI_append, List.append_assoc]; exact rep_fresh cs hcs _)
    (by simpa using hfuel)
  rw [← Cp.copyTrace_chunked_flat r1 hok] at key
  obtain ⟨⟨w, h1, h2⟩, h3⟩ := key
  have hw : w = [] := List.prefix_nil.mp h2
  subst hw
  rw [List.append_nil] at h1
  exact ⟨h1, h3⟩

/-! ## Non-vacuity and concrete traces -/

namespace C19wEx

deriving instance DecidableEq for Ev
deriving instance DecidableEq for CopyEv

/-- `write_to` on the response read from `t` (`GET`, at most 100 headers, BufReader capacity 8) -/
def traceOn (maxBuf sz fuel : Nat) (t : Transport) : List CopyEv :=
  match parseResponse .get 100 8 t with
  | .ok resp => copyTrace maxBuf sz fuel resp.body
  | _ => []

/-- `Content-Length: 11`, `hello` has arrived, then the peer is silent -/
def tCL : Transport := Ex.seg (Ex.headCL.render ++ str "hello") ++ [.pause]
/-- the same response, complete -/
def tCLfull : Transport := Ex.seg (Ex.headCL.render ++ Ex.body) ++ [.pause]
/-- close-delimited, `hello` has arrived, then the peer is silent -/
def tClose : Transport := Ex.seg2 (Ex.headClose.render ++ str "hello") ++ [.pause]
/-- chunked, two complete chunks, then the peer is silent -/
def tTE : Transport := Ex.seg (Ex.headTE.render ++ encChunks Ex.chunks) ++ [.pause]
/-- chunked, two complete chunks, five of the seven bytes of a third one, then silence -/
def tTEpart : Transport :=
  Ex.seg (Ex.headTE.render ++ encChunks Ex.chunks) ++ [.data (str "7\r\nabcde"), .pause]

/-- a close-delimited body in mid-stream: `ab` buffered, then an Interrupted read, `cdefg`, an I/O
    error, `h` -/
def bIntr : Body :=
  .close ({ buf := str "ab", cap := 8,
            inner := [.err 0, .data (str "cdefg"), .err 5, .data (str "h")] } : BufR)

/-- `write_to` on `tCL` with a copy buffer of 4 bytes and 6 reads of fuel -/
theorem trace_tCL : traceOn 4 4 6 tCL =
    [.read (.ok (str "h")), .wrote (str "h"), .read (.ok (str "ello")), .wrote (str "ello"),
     .read .blocked] := by simp only [str_data]; decide +kernel

end C19wEx

/-- non-vacuity of (w3): `Content-Length: 11`, `hello` has arrived, then the peer is silent -/
example := C19w_length_close Ex.headCL (str "hello") (some 11) [] C19wEx.tCL 8 4 100 .get 4
  (Ex.wfT_seg_append _ _ (Ex.long Ex.headCL_long) (by decide)) (by decide) Ex.headCL_wf (by decide)
  (by decide) rfl Ex.headCL_chunked Ex.headCL_cl Ex.hello_within (by decide)
  (Ex.flatT_seg_append _ _)

/-- the concrete trace of that run with `sz = 4` (the first read returns the one body byte left in
    the BufReader after the head; six reads of fuel = `x.length + 1`): every piece is written before
    the next read, and the copy sits in the third read -/
example : C19wEx.traceOn 4 4 6 C19wEx.tCL =
    [.read (.ok (str "h")), .wrote (str "h"), .read (.ok (str "ello")), .wrote (str "ello"),
     .read .blocked] := C19wEx.trace_tCL

example : writtenOf (C19wEx.traceOn 4 4 6 C19wEx.tCL) = str "hello" := by
  rw [C19wEx.trace_tCL]; decide +kernel

/-- (w2) on the same run: the drain model only reports the stall -/
example : (match parseResponse .get 100 8 C19wEx.tCL with
    | .ok resp =>
      (match drainAcc 4 4 6 resp.body [] with
       | (.blocked, acc) => acc == str "hello"
       | _ => false)
    | _ => false) = true := by decide +kernel

/-- non-vacuity of (w3), the complete announced body: the copy ends with `Ok(0)` -/
example := C19w_length_close Ex.headCL Ex.body (some 11) [] C19wEx.tCLfull 8 4 100 .get 4
  (Ex.wfT_seg_append _ _ (Ex.long Ex.headCL_long) (by decide)) (by decide) Ex.headCL_wf (by decide)
  (by decide) rfl Ex.headCL_chunked Ex.headCL_cl (by decide +kernel) (by decide)
  (Ex.flatT_seg_append _ _)

example : (C19wEx.traceOn 4 4 12 C19wEx.tCLfull).getLast? = some (.read (.ok [])) ∧
    writtenOf (C19wEx.traceOn 4 4 12 C19wEx.tCLfull) = str "hello world" := by decide +kernel

/-- non-vacuity of (w3), close-delimited -/
example := C19w_length_close Ex.headClose (str "hello") none [] C19wEx.tClose 8 4 100 .get 4
  (Ex.wfT_seg2_append _ _ (Ex.long Ex.headClose_long) (by decide)) (by decide) Ex.headClose_wf
  (by decide) (by decide) rfl Ex.headClose_chunked Ex.headClose_cl (fun _ h => nomatch h) (by decide)
  (Ex.flatT_seg2_append _ _)

example : C19wEx.traceOn 4 4 6 C19wEx.tClose =
    [.read (.ok (str "hell")), .wrote (str "hell"), .read (.ok (str "o")), .wrote (str "o"),
     .read .blocked] := by simp only [str_data]; decide +kernel

/-- non-vacuity of (w4): two complete chunks, then silence -/
example := C19w_chunked Ex.headTE Ex.chunks [] C19wEx.tTE 8 4 100 .get 4
  (Ex.wfT_seg_append _ _ (Ex.long Ex.headTE_long) (by decide)) (by decide) (by decide) Ex.headTE_wf
  Ex.chunks_wf (by decide) (by decide) rfl Ex.headTE_chunked (by decide) (Ex.flatT_seg_append _ _)

example : C19wEx.traceOn 4 4 12 C19wEx.tTE =
    [.read (.ok (str "hell")), .wrote (str "hell"), .read (.ok (str "o")), .wrote (str "o"),
     .read (.ok (str " wor")), .wrote (str " wor"), .read (.ok (str "ld")), .wrote (str "ld"),
     .read .blocked] := by simp only [str_data]; decide +kernel

/-- non-vacuity of (w4'): two complete chunks, `7\r\nabcde` of a third one (`abcdefg`), silence -/
example := C19w_chunked_cut_in_chunk Ex.headTE Ex.chunks ⟨str "abcdefg", str "7", []⟩
  (str "7\r\nabcde") [.pause] C19wEx.tTEpart 8 4 100 .get 4
  (Ex.wfT_seg_append _ _ (Ex.long Ex.headTE_long) (by decide +kernel)) (by decide) (by decide)
  Ex.headTE_wf Ex.chunks_wf (by decide +kernel) (by decide +kernel) (by decide +kernel)
  (.inr (.inr ⟨[], rfl⟩)) (by decide) (by decide) rfl Ex.headTE_chunked (by decide)
  (by rw [C19wEx.tTEpart, Ex.flatT_seg_append, bytesI_append _ (str _), List.append_assoc]; rfl)

/-- … and why (w4') cannot say `writtenOf = payloadOf cs`: with `maxBuf = 4` the decoder hands out
    the first four data bytes of the incomplete third chunk (its `read_exact` of
    `min(remaining, maxBuf)` bytes succeeds) — they, too, are with the writer before the stall -/
example : writtenOf (C19wEx.traceOn 4 4 14 C19wEx.tTEpart) = payloadOf Ex.chunks ++ str "abcd" ∧
    (C19wEx.traceOn 4 4 14 C19wEx.tTEpart).getLast? = some (.read .blocked) := by decide +kernel

/-- non-vacuity of (w1), (w2) beyond the trivial trace: an Interrupted read is retried, another
    error ends the copy after what had arrived was written -/
example : copyTrace 4 4 9 C19wEx.bIntr =
    [.read (.ok (str "ab")), .wrote (str "ab"), .read (.err (.io 0)),
     .read (.ok (str "cdef")), .wrote (str "cdef"), .read (.ok (str "g")), .wrote (str "g"),
     .read (.err (.io 5))] := by simp only [str_data]; decide +kernel

end Atto
