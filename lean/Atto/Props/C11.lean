/-
  Atto/Props/C11.lean — property C11: "proxy choice follows the curl conventions".
    (j) `ProxySettings::for_url`: a proxy is used exactly when proxies are not disabled, no
        `no_proxy` entry matches the host, and the scheme's proxy is configured;
    (k) a `no_proxy` entry matches a host exactly when the host equals it or is a sub-domain of it;
        empty entries match nothing; a host that merely ends with the same letters is not matched;
    (l) `ProxySettings::from_env` (`Url::parse` is a parameter): scheme-specific variable over
        ALL_PROXY, lower-case name over upper-case name, `no_proxy=*` disables everything, entries
        are comma-split / trimmed / stripped of leading dots / lower-cased, blank / unparsable /
        non-http(s) values are ignored, empty entries are harmless.
  Helper lemmas: Atto/Lemmas/ProxyLemmas.lean.
-/
import Atto.Lemmas.ProxyLemmas
import Atto.Lemmas.Str
namespace Atto
open Atto.Px

/-! ### (j) the decision -/

theorem C11_decision (s : ProxySettings) (u : Url) (p : Url) :
    s.forUrl u = some p ↔
      (s.disabled = false ∧ (∀ e ∈ s.noProxy, noProxyMatch u.host (lowerBytes e) = false) ∧
        ((u.scheme = str "http" ∧ s.httpProxy = some p) ∨
         (u.scheme = str "https" ∧ s.httpsProxy = some p))) := by
  cases hd : s.disabled with
  | true => simp [px_forUrl_disabled s u hd]
  | false =>
    by_cases ha : ∀ e ∈ s.noProxy, noProxyMatch u.host (lowerBytes e) = false
    · rw [px_forUrl_enabled hd ha]
      have hT := iff_true_intro ha
      by_cases h1 : u.scheme = str "http"
      · simp [h1, hT, px_http_ne_https]
      · by_cases h2 : u.scheme = str "https"
        · simp [h2, hT, Ne.symm px_http_ne_https]
        · simp [h1, h2]
    · have he : ∃ e ∈ s.noProxy, noProxyMatch u.host (lowerBytes e) = true := by simpa using ha
      simp [px_forUrl_excluded he, ha]

/-- Instance (left to right and right to left): https URL, https proxy set, a non-matching entry. -/
example :
    let s : ProxySettings := { httpProxy := none, httpsProxy := some (px_url "http" "p1" 3128),
                               disabled := false, noProxy := [str "example.org"] }
    s.forUrl (px_url "https" "example.com" 443) = some (px_url "http" "p1" 3128) := by
  intro s
  refine (C11_decision s _ _).mpr ⟨rfl, ?_, Or.inr ⟨rfl, rfl⟩⟩
  intro e he
  have : e = str "example.org" := by simpa [s] using he
  subst this; decide +kernel
example : ({ httpProxy := none, httpsProxy := some (px_url "http" "p1" 3128),
             disabled := false, noProxy := [str "example.org"] } : ProxySettings).forUrl
    (px_url "https" "example.com" 443) = some (px_url "http" "p1" 3128) := by decide +kernel
/-- A matching entry: no proxy. -/
example : ({ httpProxy := none, httpsProxy := some (px_url "http" "p1" 3128),
             disabled := false, noProxy := [str "example.com"] } : ProxySettings).forUrl
    (px_url "https" "www.example.com" 443) = none := by decide +kernel

/-- No proxy at all: the complement of `C11_decision`. -/
theorem C11_decision_none (s : ProxySettings) (u : Url) :
    s.forUrl u = none ↔
      (s.disabled = true ∨ (∃ e ∈ s.noProxy, noProxyMatch u.host (lowerBytes e) = true) ∨
        (u.scheme = str "http" ∧ s.httpProxy = none) ∨
        (u.scheme = str "https" ∧ s.httpsProxy = none) ∨
        (u.scheme ≠ str "http" ∧ u.scheme ≠ str "https")) := by
  cases hd : s.disabled with
  | true => simp [px_forUrl_disabled s u hd]
  | false =>
    by_cases he : ∃ e ∈ s.noProxy, noProxyMatch u.host (lowerBytes e) = true
    · simp [px_forUrl_excluded he, he]
    · rw [px_forUrl_enabled hd (by simpa using he)]
      by_cases h1 : u.scheme = str "http"
      · simp [h1, he, px_http_ne_https]
      · by_cases h2 : u.scheme = str "https"
        · simp [h2, he, Ne.symm px_http_ne_https]
        · simp [h1, h2]

example : ({ httpProxy := some (px_url "http" "p1" 3128), httpsProxy := none,
             disabled := false, noProxy := [] } : ProxySettings).forUrl
    (px_url "ftp" "example.com" 21) = none :=
  (C11_decision_none _ _).mpr (Or.inr (Or.inr (Or.inr (Or.inr ⟨by decide +kernel, by decide +kernel⟩))))

/-! ### (k) `no_proxy` matching -/

theorem C11_match_iff (h e : Bytes) :
    noProxyMatch h e = true ↔ e ≠ [] ∧ (h = e ∨ ∃ pre, h = pre ++ [46] ++ e) :=
  px_match_iff h e

example : noProxyMatch (str "example.com") (str "example.com") = true :=
  (C11_match_iff _ _).mpr ⟨by decide +kernel, Or.inl rfl⟩
example : noProxyMatch (str "a.b.example.com") (str "example.com") = true :=
  (C11_match_iff _ _).mpr ⟨by decide +kernel, Or.inr ⟨str "a.b", by decide +kernel⟩⟩
example : noProxyMatch (str "a.b.example.com") (str "example.com") = true := by
  simp only [str_data]
  decide +kernel

theorem C11_empty_never (h : Bytes) : noProxyMatch h [] = false := px_match_empty h

example : noProxyMatch [] [] = false ∧ noProxyMatch (str "example.com") [] = false ∧
    noProxyMatch (str "example.com.") [] = false := by decide +kernel

/-- The host `x ++ e` against the entry `e`: matched exactly when `x` is empty (equality) or ends
    with a dot (sub-domain). No condition on `e` other than being non-empty is needed. -/
theorem C11_suffix_iff (x e : Bytes) :
    noProxyMatch (x ++ e) e = true ↔ e ≠ [] ∧ (x = [] ∨ x.getLast? = some 46) := by
  rw [px_match_iff]
  simp only [List.append_left_eq_self, List.append_left_inj, List.getLast?_eq_some_iff]

/-- A host that merely ends with the same letters is not matched. -/
theorem C11_near_miss (x e : Bytes) :
    x ≠ [] → x.getLast? ≠ some 46 → noProxyMatch (x ++ e) e = false := by
  intro hx hl
  rw [← Bool.not_eq_true, C11_suffix_iff]
  exact fun ⟨_, h⟩ => h.elim hx hl

/-- `notexample.com` is not covered by the entry `example.com`. -/
example : noProxyMatch (str "not" ++ str "example.com") (str "example.com") = false :=
  C11_near_miss _ _ (by decide +kernel) (by decide +kernel)
example : noProxyMatch (str "notexample.com") (str "example.com") = false := by decide +kernel
/-- … and `sub.example.com` is. -/
example : noProxyMatch (str "sub." ++ str "example.com") (str "example.com") = true :=
  (C11_suffix_iff _ _).mpr ⟨by decide +kernel, Or.inr (by decide +kernel)⟩

/-! ### (l) `from_env` -/

/-- The scheme-specific variable wins; ALL_PROXY is the fall-back (for http and for https). -/
theorem C11_env_scheme_over_all (parse : Bytes → Option Url) (e : Env) :
    (fromEnv parse e).httpProxy =
      (match getEnvUrl parse (getEnv e.http_proxy e.HTTP_PROXY) with
       | some p => some p
       | none => getEnvUrl parse (getEnv e.all_proxy e.ALL_PROXY)) ∧
    (fromEnv parse e).httpsProxy =
      (match getEnvUrl parse (getEnv e.https_proxy e.HTTPS_PROXY) with
       | some p => some p
       | none => getEnvUrl parse (getEnv e.all_proxy e.ALL_PROXY)) := by
  simp only [fromEnv]
  constructor
  · cases getEnvUrl parse (getEnv e.http_proxy e.HTTP_PROXY) <;> rfl
  · cases getEnvUrl parse (getEnv e.https_proxy e.HTTPS_PROXY) <;> rfl

/-- http_proxy usable and ALL_PROXY set: http uses http_proxy's, https falls back to ALL_PROXY's. -/
example :
    let e := { px_env0 with http_proxy := some (str "http://p1:3128"),
                            ALL_PROXY := some (str "http://p2:3128") }
    (fromEnv px_parse e).httpProxy = px_parse (str "http://p1:3128") ∧
    (fromEnv px_parse e).httpsProxy = px_parse (str "http://p2:3128") := by decide +kernel
/-- http_proxy unusable (a socks URL): ALL_PROXY's value is used for http as well. -/
example :
    let e := { px_env0 with http_proxy := some (str "socks5://p3"),
                            ALL_PROXY := some (str "http://p2:3128") }
    (fromEnv px_parse e).httpProxy = px_parse (str "http://p2:3128") := by decide +kernel

/-- The lower-case name first; the upper-case one only if the lower-case one is unset. -/
theorem C11_env_get (lo up : Option Bytes) :
    getEnv lo up = (match lo with | some v => some v | none => up) := by
  cases lo <;> rfl

/-- If a lower-case variable is set, the value of its upper-case twin is irrelevant: two
    environments that agree on the lower-case variables, and on each upper-case one whose
    lower-case twin is unset, give the same settings. -/
theorem C11_env_lower_over_upper (parse : Bytes → Option Url) (e e' : Env)
    (h1 : e.all_proxy = e'.all_proxy) (h2 : e.http_proxy = e'.http_proxy)
    (h3 : e.https_proxy = e'.https_proxy) (h4 : e.no_proxy = e'.no_proxy)
    (u1 : e.all_proxy = none → e.ALL_PROXY = e'.ALL_PROXY)
    (u2 : e.http_proxy = none → e.HTTP_PROXY = e'.HTTP_PROXY)
    (u3 : e.https_proxy = none → e.HTTPS_PROXY = e'.HTTPS_PROXY)
    (u4 : e.no_proxy = none → e.NO_PROXY = e'.NO_PROXY) :
    fromEnv parse e = fromEnv parse e' := by
  simp only [fromEnv, px_getEnv_congr h1 u1, px_getEnv_congr h2 u2, px_getEnv_congr h3 u3,
    px_getEnv_congr h4 u4]

example (x : Option Bytes) :
    fromEnv px_parse { px_env0 with http_proxy := some (str "http://p1:3128"), HTTP_PROXY := x } =
    fromEnv px_parse { px_env0 with
      http_proxy := some (str "http://p1:3128"), HTTP_PROXY := some (str "http://p2:3128") } :=
  C11_env_lower_over_upper _ _ _ rfl rfl rfl rfl (fun _ => rfl) (fun h => by cases h)
    (fun _ => rfl) (fun _ => rfl)
example : (fromEnv px_parse { px_env0 with
    http_proxy := some (str "http://p1:3128"), HTTP_PROXY := some (str "http://p2:3128") }).httpProxy = px_parse (str "http://p1:3128") := by
  decide +kernel
/-- Also when the lower-case value is unusable: the upper-case one is still ignored. -/
example : (fromEnv px_parse { px_env0 with
    http_proxy := some (str ""), HTTP_PROXY := some (str "http://p2:3128") }).httpProxy = none := by
  decide +kernel

/-- `no_proxy=*`: proxies are disabled, for every URL. -/
theorem C11_env_wildcard (parse : Bytes → Option Url) (e : Env) :
    getEnv e.no_proxy e.NO_PROXY = some (str "*") →
    (fromEnv parse e).disabled = true ∧ ∀ u, (fromEnv parse e).forUrl u = none := by
  intro h
  have hd : (fromEnv parse e).disabled = true := by
    simp only [fromEnv, h, px_str_star]; rfl
  exact ⟨hd, fun u => px_forUrl_disabled _ u hd⟩

example : ∀ u, (fromEnv px_parse { px_env0 with
    http_proxy := some (str "http://p1:3128"), NO_PROXY := some (str "*") }).forUrl u = none :=
  (C11_env_wildcard _ _ rfl).2

/-- Any other value: the entries are split on ',', trimmed of blanks and of leading dots, and
    lower-cased; proxies are not disabled. -/
theorem C11_env_entries (parse : Bytes → Option Url) (e : Env) (v : Bytes) :
    getEnv e.no_proxy e.NO_PROXY = some v → v ≠ str "*" →
    (fromEnv parse e).disabled = false ∧
    (fromEnv parse e).noProxy =
      (splitComma v).map (fun s => lowerBytes ((trimWs s).dropWhile (· == 46))) := by
  intro h hv
  rw [px_str_star] at hv
  have hb : (v == [42]) = false := by simpa using hv
  simp only [fromEnv, h, Option.getD_some, hb, Bool.false_eq_true, if_false, and_self]

theorem C11_env_no_entries (parse : Bytes → Option Url) (e : Env) :
    getEnv e.no_proxy e.NO_PROXY = none →
    (fromEnv parse e).disabled = false ∧ (fromEnv parse e).noProxy = [] := by
  intro h
  simp only [fromEnv, h]
  exact ⟨rfl, rfl⟩

example : (fromEnv px_parse { px_env0 with no_proxy := some (str " .Example.COM ,,localhost\t, ..a") }).noProxy
    = [str "example.com", [], str "localhost", str "a"] := by
  rw [(C11_env_entries px_parse _ _ rfl (mt str_inj.mp (by decide))).2]
  simp only [str_data]
  decide +kernel

/-- A variable's value is used exactly when it is non-blank, parses, and is an http / https URL. -/
theorem C11_env_used_iff (parse : Bytes → Option Url) (v : Option Bytes) (u : Url) :
    getEnvUrl parse v = some u ↔
      ∃ val, v = some val ∧ getEnvUrl.strTrim val ≠ [] ∧ parse val = some u ∧
        (u.scheme = str "http" ∨ u.scheme = str "https") := by
  cases v with
  | none => simp [getEnvUrl]
  | some val =>
    simp only [getEnvUrl, Option.some.injEq, exists_eq_left']
    by_cases ht : getEnvUrl.strTrim val = []
    · simp [ht]
    · cases hp : parse val with
      | none => simp [ht]
      | some w =>
        simp only [ht, if_false, ne_eq, not_false_eq_true, Option.some.injEq, true_and,
          Bool.or_eq_true, beq_iff_eq]
        constructor
        · intro h; split at h
          · next hs => cases h; exact ⟨rfl, hs⟩
          · cases h
        · rintro ⟨rfl, hs⟩; rw [if_pos hs]

example : getEnvUrl px_parse (some (str "http://p1:3128")) = px_parse (str "http://p1:3128") := by
  decide +kernel

/-- Unset, blank, unparsable or non-http(s) values give no proxy. -/
theorem C11_env_ignored (parse : Bytes → Option Url) (v : Option Bytes) :
    (v = none ∨ (∃ val, v = some val ∧
        (getEnvUrl.strTrim val = [] ∨ parse val = none ∨
          ∃ u, parse val = some u ∧ u.scheme ≠ str "http" ∧ u.scheme ≠ str "https"))) →
    getEnvUrl parse v = none := by
  rintro (rfl | ⟨val, rfl, h⟩)
  · rfl
  · unfold getEnvUrl
    rcases h with h | h | ⟨w, hw, h1, h2⟩
    · simp [h]
    · simp [h]
    · simp [hw, h1, h2]

example : getEnvUrl px_parse (some (str " \t ")) = none :=
  C11_env_ignored _ _ (Or.inr ⟨_, rfl, Or.inl (by decide +kernel)⟩)
example : getEnvUrl px_parse (some (str "::nonsense")) = none :=
  C11_env_ignored _ _ (Or.inr ⟨_, rfl, Or.inr (Or.inl (by decide +kernel))⟩)
example : getEnvUrl px_parse (some (str "socks5://p3")) = none :=
  C11_env_ignored _ _ (Or.inr ⟨_, rfl, Or.inr (Or.inr ⟨px_url "socks5" "p3" 1080,
    by decide +kernel, by decide +kernel, by decide +kernel⟩)⟩)

/-- An empty entry (`no_proxy=""`, `"a,,b"`, `" . "`) never bypasses the proxy: it matches no host,
    and dropping the empty entries changes no decision. -/
theorem C11_env_empty_entry_harmless (s : ProxySettings) (u : Url) :
    (∀ h, noProxyMatch h (lowerBytes []) = false) ∧
    ({ s with noProxy := s.noProxy.filter (fun e => e != []) } : ProxySettings).forUrl u = s.forUrl u :=
  ⟨fun h => px_match_empty h, px_forUrl_filter s u⟩

/-- `no_proxy=""` yields the single entry `""`; every http URL still goes through the proxy. -/
example (host : Bytes) :
    let s := fromEnv px_parse { px_env0 with http_proxy := some (str "http://p1:3128"),
                                             no_proxy := some (str "") }
    s.noProxy = [[]] ∧
    s.forUrl { px_url "http" "" 80 with host := host } = px_parse (str "http://p1:3128") := by
  intro s
  have hnp : s.noProxy = [[]] := by decide +kernel
  refine ⟨hnp, ?_⟩
  rw [← (C11_env_empty_entry_harmless s _).2]
  cases hp : px_parse (str "http://p1:3128") with
  | none => exact absurd hp (by decide +kernel)
  | some p =>
    refine (C11_decision _ _ p).mpr ⟨by decide +kernel, ?_, Or.inl ⟨rfl, ?_⟩⟩
    · intro e he; rw [hnp] at he; simp at he
    · rw [← hp]; decide +kernel

end Atto
