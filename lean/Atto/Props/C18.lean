/-
  Atto/Props/C18.lean — property C18: "text decoding picks the declared charset and never fails or
  depends on chunking" — PARTIAL: the decoders (encoding_rs) are third-party; `Encoding::for_label`
  enters as the parameter `forLabel`, and (j) is about two reference decoders re-implemented in
  Atto/Spec/TextSpec.lean.

    (h) `C18_label_known`, `C18_label_unknown_default`, `C18_fallback_w1252`,
        `C18_explicit_ignores_header`: precedence header label > session default > windows-1252;
        `text_with` / `text_utf8` never look at the header.
    (i) `C18_header_forms`, `C18_label_verbatim`, `C18_not_first_param`, `C18_no_param`: which
        `Content-Type` shapes yield a label, and that the label reaches `for_label` verbatim.
    (j) `C18_stream_eq_whole_sb`, `C18_stream_eq_whole_utf8`, `C18_utf8_total`, `C18_utf8_ascii`:
        for the reference decoders, decoding chunk by chunk is decoding the concatenation, whatever
        the split; they are total (no error result) and emit at most one character per input byte.
  Helper lemmas: Atto/Lemmas/TextLemmas.lean.
-/
import Atto.Lemmas.TextLemmas
namespace Atto

/-! ### (h) precedence -/

/-- a label in the header that `for_label` knows wins over everything -/
theorem C18_label_known {γ : Type} (forLabel : Bytes → Option γ) (w : γ) (hs : Headers)
    (dflt : Option γ) (v l : Bytes) (c : γ)
    (hv : hs.get (str "content-type") = some v) (hl : charsetLabel v = some l)
    (hc : forLabel l = some c) :
    getCharset forLabel w hs dflt = c := by
  simp [getCharset, hv, hl, hc]

/-- when the header names no charset that `for_label` knows, the default decides, if there is one -/
theorem getCharset_no_label {γ : Type} (forLabel : Bytes → Option γ) (w : γ) (hs : Headers)
    (dflt : Option γ)
    (h : hs.get (str "content-type") = none ∨
      (∃ v, hs.get (str "content-type") = some v ∧
        (charsetLabel v = none ∨ ∃ l, charsetLabel v = some l ∧ forLabel l = none))) :
    getCharset forLabel w hs dflt = dflt.getD w := by
  rcases h with h | ⟨v, hv, h | ⟨l, hl, hn⟩⟩
  · simp [getCharset, h]
  · simp [getCharset, hv, h]
  · simp [getCharset, hv, hl, hn]

/-- no `Content-Type`, no label in it, or a label `for_label` does not know: the session default -/
theorem C18_label_unknown_default {γ : Type} (forLabel : Bytes → Option γ) (w : γ) (hs : Headers) (d : γ)
    (h : hs.get (str "content-type") = none ∨
      (∃ v, hs.get (str "content-type") = some v ∧
        (charsetLabel v = none ∨ ∃ l, charsetLabel v = some l ∧ forLabel l = none))) :
    getCharset forLabel w hs (some d) = d :=
  getCharset_no_label forLabel w hs (some d) h

/-- … and without a session default: windows-1252 -/
theorem C18_fallback_w1252 {γ : Type} (forLabel : Bytes → Option γ) (w : γ) (hs : Headers)
    (h : hs.get (str "content-type") = none ∨
      (∃ v, hs.get (str "content-type") = some v ∧
        (charsetLabel v = none ∨ ∃ l, charsetLabel v = some l ∧ forLabel l = none))) :
    getCharset forLabel w hs none = w :=
  getCharset_no_label forLabel w hs none h

/-- the cases are exhaustive: a label the table knows, or none that can be used -/
theorem C18_precedence {γ : Type} (forLabel : Bytes → Option γ) (w : γ) (hs : Headers) (dflt : Option γ) :
    (∃ v l c, hs.get (str "content-type") = some v ∧ charsetLabel v = some l ∧ forLabel l = some c ∧
      getCharset forLabel w hs dflt = c) ∨
    ((hs.get (str "content-type") = none ∨
      (∃ v, hs.get (str "content-type") = some v ∧
        (charsetLabel v = none ∨ ∃ l, charsetLabel v = some l ∧ forLabel l = none))) ∧
      getCharset forLabel w hs dflt = dflt.getD w) := by
  cases hv : hs.get (str "content-type") with
  | none => exact .inr ⟨.inl rfl, getCharset_no_label forLabel w hs dflt (.inl hv)⟩
  | some v =>
    cases hl : charsetLabel v with
    | none =>
      exact .inr ⟨.inr ⟨v, rfl, .inl hl⟩, getCharset_no_label forLabel w hs dflt (.inr ⟨v, hv, .inl hl⟩)⟩
    | some l =>
      cases hc : forLabel l with
      | none =>
        exact .inr ⟨.inr ⟨v, rfl, .inr ⟨l, hl, hc⟩⟩,
          getCharset_no_label forLabel w hs dflt (.inr ⟨v, hv, .inr ⟨l, hl, hc⟩⟩)⟩
      | some c =>
        exact Or.inl ⟨v, l, c, rfl, hl, hc, C18_label_known forLabel w hs dflt v l c hv hl hc⟩

theorem C18_explicit_ignores_header {γ : Type} (forLabel : Bytes → Option γ) (w utf8 : γ)
    (hs : Headers) (dflt : Option γ) (c : γ) :
    charsetUsed forLabel w utf8 hs dflt (.textWith c) = c ∧
    charsetUsed forLabel w utf8 hs dflt .textUtf8 = utf8 ∧
    charsetUsed forLabel w utf8 hs dflt .text = getCharset forLabel w hs dflt :=
  ⟨rfl, rfl, rfl⟩

namespace C18
/-- a toy `for_label` (case-insensitive like the real one) with charsets named by strings -/
def forLabel (l : Bytes) : Option String :=
  if lowerBytes l = str "utf-8" then some "UTF-8"
  else if lowerBytes l = str "latin1" then some "windows-1252"
  else if lowerBytes l = str "shift_jis" then some "Shift_JIS"
  else none
end C18

example : getCharset C18.forLabel "windows-1252" [(str "content-type", str "text/html; charset=Shift_JIS")]
    (some "UTF-8") = "Shift_JIS" := by
  rw [str_ofList, str_ofList]
  decide +kernel
example : getCharset C18.forLabel "windows-1252" [(str "content-type", str "text/html; charset=klingon")]
    (some "UTF-8") = "UTF-8" := by
  rw [str_ofList, str_ofList]
  decide +kernel
example : getCharset C18.forLabel "windows-1252" [(str "content-type", str "text/html; charset=klingon")]
    none = "windows-1252" := by
  rw [str_ofList, str_ofList]
  decide +kernel
example : getCharset C18.forLabel "windows-1252" [] none = "windows-1252" := by decide +kernel
/-- only the first `Content-Type` value counts -/
example : getCharset C18.forLabel "windows-1252"
    [(str "content-type", str "text/html"), (str "content-type", str "text/html; charset=utf-8")]
    none = "windows-1252" := by decide +kernel
example : getCharset C18.forLabel "windows-1252" [(str "content-type", str "text/html; charset=Shift_JIS")]
    (some "UTF-8") = "Shift_JIS" :=
  C18_label_known _ _ _ _ (str "text/html; charset=Shift_JIS") (str "Shift_JIS") _
    (Headers.get_singleton _ _) (by rw [str_ofList, str_ofList]; decide +kernel)
    (by rw [str_ofList]; decide +kernel)
example : getCharset C18.forLabel "windows-1252" [(str "content-type", str "text/html")] (some "UTF-8")
    = "UTF-8" :=
  C18_label_unknown_default _ _ _ _
    (Or.inr ⟨str "text/html", Headers.get_singleton _ _,
      Or.inl (by rw [str_ofList]; decide +kernel)⟩)
example : getCharset C18.forLabel "windows-1252" [(str "x", str "y")] none = "windows-1252" :=
  C18_fallback_w1252 _ _ _ (Or.inl (by decide +kernel))
example : charsetUsed C18.forLabel "windows-1252" "UTF-8"
    [(str "content-type", str "text/html; charset=Shift_JIS")] (some "UTF-8") (.textWith "windows-1252")
      = "windows-1252" :=
  (C18_explicit_ignores_header _ _ _ _ _ _).1

/-- `C18_precedence` on an unknown label: the first alternative is impossible -/
example : getCharset C18.forLabel "windows-1252" [(str "content-type", str "text/html; charset=x")]
    (some "UTF-8") = "UTF-8" := by
  rcases C18_precedence C18.forLabel "windows-1252" [(str "content-type", str "text/html; charset=x")]
    (some "UTF-8") with ⟨v, l, c, hv, hl, hc, _⟩ | ⟨_, h⟩
  · have e : v = str "text/html; charset=x" := by
      rw [Headers.get_singleton] at hv; exact (Option.some.inj hv).symm
    subst e
    have : charsetLabel (str "text/html; charset=x") = some (str "x") := by
      rw [str_ofList, str_ofList]
      decide +kernel
    rw [this] at hl; cases hl
    have : C18.forLabel (str "x") = none := by decide +kernel
    rw [this] at hc; cases hc
  · exact h

/-! ### (i) header forms -/

/-- `type/subtype;charset=l`, with any number of blanks after the `;` (none included): the label is
    `l`, for every `l` that does not end in a blank (trailing blanks of the value are trimmed) -/
theorem C18_header_forms (ty l : Bytes) (k : Nat) (hty : (59 : UInt8) ∉ ty)
    (hl : l.getLast? ≠ some 32) :
    charsetLabel (ty ++ [59] ++ List.replicate k 32 ++ str "charset=" ++ l) = some l := by
  have e : ty ++ [59] ++ List.replicate k 32 ++ str "charset=" ++ l =
      ty ++ 59 :: (List.replicate k 32 ++ str "charset=" ++ l) := by simp
  rw [e, tx_charsetLabel_split ty _ hty, tx_trim_param k l hl]
  have hp : isPrefixOfB (str "charset=") (str "charset=" ++ l) = true := by
    unfold isPrefixOfB; simp
  have hd : (str "charset=" ++ l).drop 8 = l := by rw [tx_str_charset]; rfl
  rw [if_pos hp, hd]

/-- the label reaches `for_label` verbatim — letter case untouched, further parameters included:
    case-insensitivity is `for_label`'s business -/
theorem C18_label_verbatim {γ : Type} (forLabel : Bytes → Option γ) (w : γ) (dflt : Option γ)
    (ty l : Bytes) (k : Nat) (hty : (59 : UInt8) ∉ ty) (hl : l.getLast? ≠ some 32) :
    getCharset forLabel w
      [(str "content-type", ty ++ [59] ++ List.replicate k 32 ++ str "charset=" ++ l)] dflt
      = (forLabel l).getD (dflt.getD w) := by
  unfold getCharset
  rw [Headers.get_singleton]
  simp only [C18_header_forms ty l k hty hl]
  cases forLabel l <;> rfl

example : getCharset C18.forLabel "windows-1252"
    [(str "content-type", str "text/html" ++ [59] ++ List.replicate 2 32 ++ str "charset=" ++ str "LATIN1")]
    none = "windows-1252" ∧ C18.forLabel (str "LATIN1") = some "windows-1252" := by
  rw [C18_label_verbatim _ _ _ (str "text/html") (str "LATIN1") 2 (by decide +kernel) (by decide +kernel)]
  decide +kernel

/-- `charset` is found only as the FIRST parameter: whatever follows the first `;` must, trimmed of
    blanks, start with the lower-case literal `charset=` -/
theorem C18_not_first_param (ty rest : Bytes) (hty : (59 : UInt8) ∉ ty)
    (h : isPrefixOfB (str "charset=") (trimByte 32 rest) = false) :
    charsetLabel (ty ++ [59] ++ rest) = none := by
  have e : ty ++ [59] ++ rest = ty ++ 59 :: rest := by simp
  rw [e, tx_charsetLabel_split ty _ hty, h]
  rfl

/-- no parameter at all: no label -/
theorem C18_no_param (v : Bytes) (h : (59 : UInt8) ∉ v) : charsetLabel v = none := by
  unfold charsetLabel
  rw [List.idxOf?_eq_none_iff.mpr h]

example : charsetLabel (str "text/html;charset=UTF-8") = some (str "UTF-8") := by
  have e : str "text/html;charset=UTF-8" =
      str "text/html" ++ [59] ++ List.replicate 0 32 ++ str "charset=" ++ str "UTF-8" := by
    rw [str_ofList, str_ofList, str_ofList, str_ofList]
    decide +kernel
  rw [e]
  exact C18_header_forms (str "text/html") (str "UTF-8") 0 (by decide +kernel) (by decide +kernel)
example : charsetLabel (str "text/html;   charset=utf-8") = some (str "utf-8") := by
  have e : str "text/html;   charset=utf-8" =
      str "text/html" ++ [59] ++ List.replicate 3 32 ++ str "charset=" ++ str "utf-8" := by
    rw [str_ofList, str_ofList, str_ofList, str_ofList]
    decide +kernel
  rw [e]
  exact C18_header_forms (str "text/html") (str "utf-8") 3 (by decide +kernel) (by decide +kernel)
example : charsetLabel (str "text/html; charset=utf-8  ") = some (str "utf-8") := by
  rw [str_ofList, str_ofList]
  decide +kernel
/-- everything after `charset=` is the label: quotes and further parameters are not removed -/
example : charsetLabel (str "text/html; charset=\"utf-8\"") = some (str "\"utf-8\"") := by
  rw [str_ofList, str_ofList]
  decide +kernel
example : charsetLabel (str "text/html; charset=utf-8; format=flowed") = some (str "utf-8; format=flowed") := by
  rw [str_ofList, str_ofList]
  decide +kernel
/-- not the first parameter, upper-case parameter name, HTAB instead of SP: no label -/
example : charsetLabel (str "multipart/mixed; boundary=x; charset=utf-8") = none := by
  have e : str "multipart/mixed; boundary=x; charset=utf-8" =
      str "multipart/mixed" ++ [59] ++ str " boundary=x; charset=utf-8" := by
    rw [str_ofList, str_ofList, str_ofList]
    decide +kernel
  rw [e]
  exact C18_not_first_param (str "multipart/mixed") (str " boundary=x; charset=utf-8") (by decide +kernel)
    (by rw [str_ofList, str_ofList]; decide +kernel)
example : charsetLabel (str "text/html; Charset=utf-8") = none := by
  rw [str_ofList]
  decide +kernel
example : charsetLabel (str "text/html;\tcharset=utf-8") = none := by
  rw [str_ofList]
  decide +kernel
example : charsetLabel (str "text/html") = none := C18_no_param _ (by decide +kernel)
example : getCharset C18.forLabel "windows-1252" [(str "content-type", str "text/html; charset=LATIN1")]
    (some "UTF-8") = "windows-1252" := by
  rw [str_ofList, str_ofList]
  decide +kernel

/-! ### (j) streaming = whole, for the reference decoders -/

/-- single-byte charsets: any split, any number of chunks -/
theorem C18_stream_eq_whole_sb (table : UInt8 → Char) :
    (∀ a b : Bytes, decodeSB table (a ++ b) = decodeSB table a ++ decodeSB table b) ∧
    (∀ chunks : List Bytes, decodeSBChunks table chunks = decodeSB table chunks.flatten) :=
  ⟨fun _ _ => List.map_append, fun _ => List.map_flatten.symm⟩

example : decodeSBChunks (fun b => Char.ofNat b.toNat) [[0x41, 0xE9], [], [0x80]] =
    decodeSB (fun b => Char.ofNat b.toNat) [0x41, 0xE9, 0x80] :=
  (C18_stream_eq_whole_sb _).2 _

/-- UTF-8 with replacement: running the automaton over `a` and then, from the state reached, over
    `b` is running it over `a ++ b` — from any state, so also with a sequence cut by the split —
    hence decoding chunk by chunk gives the decoding of the concatenation. -/
theorem C18_stream_eq_whole_utf8 :
    (∀ (s : U8State) (a b : Bytes),
      utf8Run s (a ++ b) =
        ((utf8Run (utf8Run s a).1 b).1, (utf8Run s a).2 ++ (utf8Run (utf8Run s a).1 b).2)) ∧
    (∀ chunks : List Bytes, decodeUtf8Chunks chunks = decodeUtf8 chunks.flatten) ∧
    (∀ chunks1 chunks2 : List Bytes, chunks1.flatten = chunks2.flatten →
      decodeUtf8Chunks chunks1 = decodeUtf8Chunks chunks2) :=
  ⟨fun s a b => tx_utf8Run_append a b s, tx_decodeUtf8Chunks,
    fun c1 c2 h => by rw [tx_decodeUtf8Chunks, tx_decodeUtf8Chunks, h]⟩

example : decodeUtf8Chunks [[0x41, 0xF0], [0x9D], [], [0x84, 0x9E, 0xE6], [0x97]] =
    decodeUtf8Chunks [[0x41], [0xF0, 0x9D, 0x84], [0x9E, 0xE6, 0x97]] :=
  C18_stream_eq_whole_utf8.2.2 _ _ (by decide)

/-- totality: the decoder is a function to `List Char` — there is no error result — and it emits at
    most one character per input byte and at least one for a non-empty input -/
theorem C18_utf8_total (bs : Bytes) :
    (decodeUtf8 bs).length ≤ bs.length ∧ (bs ≠ [] → 1 ≤ (decodeUtf8 bs).length) := by
  have h := tx_utf8Run_count bs .init
  rw [utf8Finish_init, List.length_nil, Nat.zero_add] at h
  unfold decodeUtf8
  rw [List.length_append]
  exact ⟨h.1, h.2.2⟩

example : (decodeUtf8 [0xFE, 0xEA, 0xD9]).length ≤ 3 := (C18_utf8_total _).1

/-- ASCII is decoded to itself -/
theorem C18_utf8_ascii (bs : Bytes) (h : ∀ b ∈ bs, b ≤ 0x7F) :
    decodeUtf8 bs = bs.map (fun b => Char.ofNat b.toNat) := by
  unfold decodeUtf8
  rw [tx_utf8Run_ascii bs h]
  simp only [utf8Finish_init, List.append_nil]

example : String.ofList (decodeUtf8 (str "plain text")) = "plain text" := by decide +kernel

end Atto
