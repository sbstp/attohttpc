/-
  Atto/Props/C12.lean — "CONNECT tunnelling: nothing leaks before the proxy agrees".

  About the tunnel branch of `sendLoop`: `rqIsTunnel s url = true`, i.e. a proxy is selected for the
  hop's URL and the URL's scheme is `https`.  `rqReplyHead mh cap script` is the proxy's reply head
  as `initiate_tunnel` parses it from the (arbitrarily segmented, arbitrarily hostile) script,
  together with the BufReader state after the head.
  Helper lemmas: Lemmas/RqSend.lean, Lemmas/ConnectCap.lean,
  Lemmas/RqHeaders.lean, Lemmas/RqRoundTrip.lean, Lemmas/RqConnect.lean.
-/
import Atto.Lemmas.RqSend
import Atto.Lemmas.RqHeaders
import Atto.Lemmas.RqLex
import Atto.Lemmas.RqConnect
import Atto.Lemmas.RedirectExamples
import Atto.Props.C08
namespace Atto

/-! ### example data -/
namespace C12
/-- a second request, to another resource of the same origin, with other credentials -/
def req2 : Req :=
  { method := str "GET", methodM := .get, headers := [(str "cookie", str "s=1")],
    body := { kind := .empty }, bodyRewindable := false }
def originTls2 : Url :=
  { C08.originTls with user := str "alice", pass := none, path := str "/secret", query := none, fragment := none }
/-- the proxy refuses: 407 with a body, delivered in pieces with an Interrupted error in between -/
def refuse : Hop :=
  { script := [.data (str "HTTP/1.1 407 Auth\r\nx: "), .data (str "y\r\n\r\nno"), .err 0, .data (str " way")],
    resolved := none }
def accept : Hop := { script := [.data (str "HTTP/1.1 200 OK\r\n"), .data (str "\r\n")], resolved := none }
theorem tunnel : rqIsTunnel C08.viaProxy C08.originTls = true := by decide +kernel
theorem tunnel2 : rqIsTunnel C08.viaProxy originTls2 = true := by decide +kernel
end C12

/-! ### (i) only the CONNECT head is written -/

/-- (i) In the tunnel branch exactly one connection is observed and what is written on it (before
    any TLS byte) is `connectRequest url proxy`. -/
theorem C12_wrote (s : SendSettings) (req : Req) (cap : Nat) (hop : Hop) (rest : List Hop) (url : Url)
    (n : Nat) (hdrs : Headers) (first : Bool) (ht : rqIsTunnel s url = true) :
    ∃ p, s.proxy.forUrl url = some p ∧
      (sendLoop s req cap (hop :: rest) url n hdrs first).1.map (·.wrote) = [connectRequest url p] ∧
      (sendLoop s req cap (hop :: rest) url n hdrs first).2 = initiateTunnel s.maxHeaders cap hop.script := by
  rw [rq_sendLoop_tunnel s req cap hop rest url n hdrs first ht]
  unfold rqIsTunnel at ht
  cases hp : s.proxy.forUrl url with
  | none => simp [hp] at ht
  | some p =>
    refine ⟨p, rfl, ?_⟩
    cases initiateTunnel s.maxHeaders cap hop.script <;> simp [rqTunnelOut, rqDialTarget, hp]

/-- (i) Non-interference: two requests (any methods, headers, bodies, rewindability, position in the
    redirect chain) to two URLs that agree on host, effective port and scheme (and may differ in
    path, query, userinfo, fragment), through the same settings and the same proxy behaviour, put
    the same bytes on the proxy connection and end in the same way.  So the caller's headers, body,
    origin credentials, path and query cannot appear on the proxy connection in clear. -/
theorem C12_only_connect_written (s : SendSettings) (req1 req2 : Req) (cap : Nat) (hop : Hop)
    (rest1 rest2 : List Hop) (u1 u2 : Url) (n1 n2 : Nat) (hdrs1 hdrs2 : Headers) (first1 first2 : Bool)
    (hh : u1.host = u2.host) (hp : u1.effPort = u2.effPort) (hs : u1.scheme = u2.scheme)
    (ht : rqIsTunnel s u1 = true) :
    (sendLoop s req1 cap (hop :: rest1) u1 n1 hdrs1 first1).1.map (·.wrote) =
      (sendLoop s req2 cap (hop :: rest2) u2 n2 hdrs2 first2).1.map (·.wrote) ∧
    (sendLoop s req1 cap (hop :: rest1) u1 n1 hdrs1 first1).2 =
      (sendLoop s req2 cap (hop :: rest2) u2 n2 hdrs2 first2).2 := by
  have hf : s.proxy.forUrl u1 = s.proxy.forUrl u2 := by unfold ProxySettings.forUrl; rw [hh, hs]
  have ht2 : rqIsTunnel s u2 = true := by unfold rqIsTunnel at ht ⊢; rw [← hf, ← hs]; exact ht
  obtain ⟨p1, hp1, hw1, hf1⟩ := C12_wrote s req1 cap hop rest1 u1 n1 hdrs1 first1 ht
  obtain ⟨p2, hp2, hw2, hf2⟩ := C12_wrote s req2 cap hop rest2 u2 n2 hdrs2 first2 ht2
  have : p1 = p2 := by rw [hf, hp2] at hp1; exact (Option.some.inj hp1).symm
  subst this
  rw [hw1, hw2, hf1, hf2, connectRequest, connectRequest, hh, hp]
  exact ⟨rfl, rfl⟩

/-- non-vacuity: POST with Authorization and a body to `bob:pw@…/a/b?x=1&y=2#frag` versus a GET with a
    cookie to `alice@…/secret` -/
example := C12_only_connect_written C08.viaProxy C08.req C12.req2 8 C12.refuse [] [C12.accept]
  C08.originTls C12.originTls2 0 3 C08.req.headers [] true false rfl rfl rfl C12.tunnel

/-! ### (j) the shape of the CONNECT head -/

/-- (j) The CONNECT head names the ORIGIN's host and effective port in authority-form and carries
    the proxy URL's credentials in `Proxy-Authorization: Basic base64(user ":" password)`. -/
theorem C12_connect_shape (url p : Url) :
    (∃ after, connectRequest url p =
        str "CONNECT " ++ url.host ++ [58] ++ natDigits url.effPort ++ str " HTTP/1.1\r\n" ++ after) ∧
    (∃ before, connectRequest url p = before ++
        (str "Proxy-Authorization: Basic " ++ b64Encode (p.user ++ [58] ++ p.pass.getD []) ++ str "\r\n") ++
        str "\r\n") := by
  constructor
  · exact ⟨_, by simp only [connectRequest, List.append_assoc]; rfl⟩
  · exact ⟨str "CONNECT " ++ url.host ++ [58] ++ natDigits url.effPort ++ str " HTTP/1.1\r\n" ++
      str "Host: " ++ p.host ++ [58] ++ natDigits p.effPort ++ str "\r\n" ++ str "Connection: close\r\n",
      by simp only [connectRequest, List.append_assoc]⟩

example : (str "CONNECT example.com:443 HTTP/1.1\r\nHost: proxy.local:3128\r\nConnection: close\r\nProxy-Authorization: Basic cHU6cHA=\r\n\r\n")
    = connectRequest C08.originTls C08.proxyUrl := by
  rw [str_ofList]
  decide +kernel

/-- (j) The CONNECT head is one well-formed HTTP/1.1 request head: the independent parser of
    Spec/RequestSpec.lean reads it back as method `CONNECT`, the authority-form target
    `origin-host ":" origin-effective-port`, the three fields Host (the proxy's host and port),
    Connection: close, Proxy-Authorization — no framing field, no body, and NOTHING after the head.
    Needs: no SP / CR / LF in the origin's host, and the proxy's `host:port` a well-formed value. -/
theorem C12_connect_parses (url p : Url) (hu : ∀ c ∈ url.host, c ≠ 32 ∧ c ≠ 13 ∧ c ≠ 10)
    (hp : rqWFValue (p.host ++ [58] ++ natDigits p.effPort)) :
    parseRequest (connectRequest url p) =
      some ({ method := str "CONNECT", target := url.host ++ [58] ++ natDigits url.effPort,
              headers := [(str "Host", p.host ++ [58] ++ natDigits p.effPort), (str "Connection", str "close"),
                          (str "Proxy-Authorization", str "Basic " ++ b64Encode (p.user ++ [58] ++ p.pass.getD []))],
              body := [] }, []) := by
  show _ = some (({ method := _, target := rqConnectTarget url, headers := rqConnectFields p, body := [] } :
    ParsedReq), [])
  have ht : rqConnectTarget url ≠ [] := by simp [rqConnectTarget]
  have ht' : ∀ c ∈ rqConnectTarget url, c ≠ 32 ∧ c ≠ 13 ∧ c ≠ 10 := by
    intro c hc
    simp only [rqConnectTarget, List.mem_append, List.mem_cons, List.not_mem_nil, or_false] at hc
    rcases hc with (hc | rfl) | hc
    · exact hu c hc
    · decide
    · obtain ⟨_, h32, _, h13, h10⟩ := rq_isDigit_valueByte c (rq_natDigits_digit url.effPort c hc)
      exact ⟨h32, h13, h10⟩
  rw [rq_connectRequest_shape, rq_parse_head (str "CONNECT") (rqConnectTarget url) (rqConnectFields p) []
    (by decide +kernel) ht ht' (rq_connectFields_WF p hp)]
  simp [rqParseBody, rq_connect_framing]

example := C12_connect_parses C08.originTls C08.proxyUrl (by decide +kernel) (by decide +kernel)

/-! ### (k) TLS only after a 2xx head -/

/-- (k) In the tunnel branch the following are equivalent: the proxy's reply head was parsed and its
    status is in 200..299; the outcome is `tlsStarted`; a TLS handshake was started (`tlsName` set).
    The name checked is then the ORIGIN's host, never the proxy's; otherwise no TLS byte is sent. -/
theorem C12_tls_only_after_2xx (s : SendSettings) (req : Req) (cap : Nat) (hop : Hop) (rest : List Hop)
    (url : Url) (n : Nat) (hdrs : Headers) (first : Bool) (ht : rqIsTunnel s url = true) :
    let r := sendLoop s req cap (hop :: rest) url n hdrs first
    let ok2xx := ∃ status hs, (rqReplyHead s.maxHeaders cap hop.script).1 = .ok (status, hs) ∧
                   200 ≤ status ∧ status < 300
    (r.2 = .tlsStarted ↔ ok2xx) ∧
    ((∃ o nm, r.1 = [o] ∧ o.tlsName = some nm) ↔ ok2xx) ∧
    (∀ o ∈ r.1, ∀ nm, o.tlsName = some nm → nm = url.host) ∧
    (¬ ok2xx → ∀ o ∈ r.1, o.tlsName = none) ∧
    r.1.length = 1 := by
  intro r ok2xx
  have hok : ok2xx ↔ initiateTunnel s.maxHeaders cap hop.script = .tlsStarted :=
    (rq_initiateTunnel_tls_iff s.maxHeaders cap hop.script).symm
  by_cases hf : initiateTunnel s.maxHeaders cap hop.script = .tlsStarted
  · -- agreed: one observation, with the origin's host as TLS name, and `tlsStarted`
    have hr : r = _ := rq_sendLoop_agreed ht hf
    simp [hr, hok, hf]
  · -- refused: one observation, without a TLS name, and the refusal
    have hr : r = _ := rq_sendLoop_refused ht hf
    simp [hr, hok, hf, rqTunnelOut]

/-- non-vacuity: accepted (TLS towards `example.com`), and refused (no TLS) -/
example : (send C08.viaProxy C08.req 8 C08.originTls [C12.accept]).1.map (·.tlsName) = [some (str "example.com")] := by
  decide +kernel
example : (send C08.viaProxy C08.req 8 C08.originTls [C12.refuse]).1.map (·.tlsName) = [none] := by
  decide +kernel

/-! ### (l) refusal -/

/-- (l) If the reply head was parsed with a status outside 200..299 and the body could be read
    (`take(CONNECT_BODY_CAP).read_to_end` met no transport error), the outcome is
    `connectError status body` where `body` is exactly the first `connectBodyCap` bytes (or all, if
    fewer) that followed the head on the connection — Interrupted errors skipped — and no further
    connection is made: the hop list `rest` is never touched. -/
theorem C12_refusal (s : SendSettings) (req : Req) (cap : Nat) (hop : Hop) (rest : List Hop)
    (url : Url) (n : Nat) (hdrs : Headers) (first : Bool) (ht : rqIsTunnel s url = true)
    (hw : wfT hop.script) (hc : 0 < cap) (status : Nat) (hs : Headers) (body : Bytes)
    (hh : (rqReplyHead s.maxHeaders cap hop.script).1 = .ok (status, hs))
    (h2 : ¬ (200 ≤ status ∧ status < 300))
    (hb : readToEndTake (Consts.connectBodyCap + (rqReplyHead s.maxHeaders cap hop.script).2.inner.length + 2)
            (rqReplyHead s.maxHeaders cap hop.script).2 Consts.connectBodyCap [] = .ok body) :
    sendLoop s req cap (hop :: rest) url n hdrs first = ([rqTunnelOut s url], .connectError status body) ∧
    body.length ≤ Consts.connectBodyCap ∧
    body <+: rqLeadingBytes (rqReplyHead s.maxHeaders cap hop.script).2.flat ∧
    body = (rqLeadingBytes (rqReplyHead s.maxHeaders cap hop.script).2.flat).take Consts.connectBodyCap ∧
    (sendLoop s req cap (hop :: rest) url n hdrs first).1.length = 1 := by
  have hi := rq_initiateTunnel_refused s.maxHeaders cap hop.script status hs body hh h2 hb
  have hr := rq_sendLoop_tunnel s req cap hop rest url n hdrs first ht
  rw [hi] at hr
  -- `.trans (List.nil_append _)`: left to the unifier, `[] ++ x =?= x` next to `rqReplyHead …` is slow
  have heq := (rq_readToEndTake_exact _ _ _ [] body (rq_replyHead_ok s.maxHeaders cap hop.script hw hc) hb).trans
    (List.nil_append _)
  exact ⟨hr, readToEndTake_le _ _ _ [] body hb, by rw [heq]; exact List.take_prefix _ _, heq, by rw [hr]; rfl⟩

/-- (l) Whatever follows a non-2xx head, the outcome is a connect error, a transport error or a
    silent peer — never a panic, never a further hop. -/
theorem C12_refusal_total (s : SendSettings) (req : Req) (cap : Nat) (hop : Hop) (rest : List Hop)
    (url : Url) (n : Nat) (hdrs : Headers) (first : Bool) (ht : rqIsTunnel s url = true)
    (hw : wfT hop.script) (hc : 0 < cap) (status : Nat) (hs : Headers)
    (hh : (rqReplyHead s.maxHeaders cap hop.script).1 = .ok (status, hs))
    (h2 : ¬ (200 ≤ status ∧ status < 300)) :
    (sendLoop s req cap (hop :: rest) url n hdrs first).1 = [rqTunnelOut s url] ∧
    ((∃ body, (sendLoop s req cap (hop :: rest) url n hdrs first).2 = .connectError status body ∧
        body.length ≤ Consts.connectBodyCap) ∨
     (∃ e, (sendLoop s req cap (hop :: rest) url n hdrs first).2 = .err e) ∨
     (sendLoop s req cap (hop :: rest) url n hdrs first).2 = .blocked) := by
  rw [rq_sendLoop_tunnel s req cap hop rest url n hdrs first ht, rq_initiateTunnel_eq]
  have hok := rq_replyHead_ok s.maxHeaders cap hop.script hw hc
  revert hh hok
  generalize rqReplyHead s.maxHeaders cap hop.script = p
  obtain ⟨res, r1⟩ := p
  intro hh hok
  simp only at hh hok
  subst hh
  simp only [rqTunnelFinal, h2, if_false]
  have hnp := readToEndTake_no_panic (Consts.connectBodyCap + r1.inner.length + 2) r1 Consts.connectBodyCap [] hok (by omega)
  cases hr : readToEndTake (Consts.connectBodyCap + r1.inner.length + 2) r1 Consts.connectBodyCap [] with
  | ok body => exact ⟨rfl, .inl ⟨body, rfl, readToEndTake_le _ _ _ [] body hr⟩⟩
  | err e => exact ⟨rfl, .inr (.inl ⟨e, rfl⟩)⟩
  | blocked => exact ⟨rfl, .inr (.inr rfl)⟩
  | panic => exact absurd hr hnp

/-- non-vacuity: 407, body "no way" split by an Interrupted error -/
example : send C08.viaProxy C08.req 8 C08.originTls [C12.refuse, C12.accept] =
    ([rqTunnelOut C08.viaProxy C08.originTls], .connectError 407 (str "no way")) :=
  (C12_refusal C08.viaProxy C08.req 8 C12.refuse [C12.accept] C08.originTls 0 C08.req.headers true C12.tunnel
    (by decide +kernel) (by decide) 407 [(str "x", str "y")] (str "no way")
    (by decide +kernel) (by decide) (by decide +kernel)).1

/-! ### (m) proxy credentials are not forwarded -/

/-- (m) Neither `try_prepare` nor `set_host` adds a `Proxy-Authorization` field: the request written
    on a non-tunnel hop, and the request sent inside the tunnel, carry one only if the caller's own
    headers did. The proxy URL's credentials appear in `connectRequest` only. -/
theorem C12_no_proxy_creds_inside (s : PrepSettings) (h0 : Headers) (b : BodyM) (u : Url) :
    (tryPrepare s h0 b).getAll (str "proxy-authorization") = h0.getAll (str "proxy-authorization") ∧
    (setHost (tryPrepare s h0 b) u).getAll (str "proxy-authorization") = h0.getAll (str "proxy-authorization") ∧
    ∀ h : Headers, (setHost h u).getAll (str "proxy-authorization") = h.getAll (str "proxy-authorization") := by
  have h1 : (tryPrepare s h0 b).getAll (str "proxy-authorization") = h0.getAll (str "proxy-authorization") := by
    rw [rq_tryPrepare_getAll s h0 b (by simp [str_inj]) (by simp [str_inj]),
      rq_prep_early s h0 b rq_proxyAuth_late]
  have h2 : ∀ h : Headers, (setHost h u).getAll (str "proxy-authorization") = h.getAll (str "proxy-authorization") := by
    intro h; simp [setHost, rq_getAll_insert, rq_hName]
  exact ⟨h1, by rw [h2, h1], h2⟩

/-- (m) for every hop of the loop: the header map written has the caller's `Proxy-Authorization`
    values and no others (whichever `set_host` variant the hop uses). -/
theorem C12_no_proxy_creds_hop (s : SendSettings) (url : Url) (hdrs : Headers) :
    (rqHopHeaders s url hdrs).getAll (str "proxy-authorization") = hdrs.getAll (str "proxy-authorization") := by
  rw [rqHopHeaders_eq, Rd.rd_hopHdrs_eq, rq_getAll_setHost, if_neg (by simp [hName, str_inj])]

example : (setHost (tryPrepare ⟨true, str "ua"⟩ C08.req.headers C08.req.body) C08.originTls).getAll
    (str "proxy-authorization") = [] := by
  rw [(C12_no_proxy_creds_inside _ _ _ _).2.1]; decide +kernel

end Atto
