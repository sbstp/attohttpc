/-
  Atto/Props/C17.lean — property C17: "connection racing finds a reachable address quickly and
  reports failure honestly".  Model: Atto/Model/Happy.lean (`intertwine`, and `connect` as a
  discrete-event function of the per-address behaviour).  Lemmas: Atto/Lemmas/HappyLemmas.lean.

    (g) `C17_order`, `C17_order_families`, `C17_order_connect`: the dial order is a permutation of
        the resolver's answer, alternating IPv6 / IPv4 starting with IPv6, resolver order kept
        inside each family, the rest of the longer family at the end;
    (h) `C17_ok_accepts` (any deadline): a success is a connection to an address that accepted
        within the connect timeout; `C17_iff` (no deadline, distinct ids): success iff some address
        accepts within the connect timeout;
    (i) `C17_err` (any deadline): nobody accepts in time ⇒ the error of one of the attempts;
        `C17_noDns_iff`: `noDns` only for an empty answer;
    (j) `C17_delay` (no deadline, distinct ids): the k-th address of the dial order accepting after
        `d` gives a connection by `k * raceDelay + d` — a dead predecessor costs one race interval,
        not a connect timeout.
-/
import Atto.Lemmas.HappyLemmas
namespace Atto
open Atto.Happy

/-! ### example data -/

def c17_a0 : Addr := { fam := .v4, beh := .accept 30, id := 0 }
def c17_a1 : Addr := { fam := .v6, beh := .blackhole, id := 1 }
def c17_a2 : Addr := { fam := .v4, beh := .refuse 5, id := 2 }
def c17_a3 : Addr := { fam := .v6, beh := .blackhole, id := 3 }
def c17_a4 : Addr := { fam := .v6, beh := .accept 5000, id := 4 }

/-! ### (g) the order of the attempts -/

/-- `intertwine as bs`: (1) a permutation of `as ++ bs`; (2) positions `2k`, `2k+1` below
    `2 * min |as| |bs|` hold `as[k]`, `bs[k]`; (3) after that the rest of the longer list. -/
theorem C17_order {α : Type} (as bs : List α) :
    (intertwine as bs).Perm (as ++ bs) ∧
    (∀ k, k < min as.length bs.length →
      (intertwine as bs)[2 * k]? = as[k]? ∧ (intertwine as bs)[2 * k + 1]? = bs[k]?) ∧
    (intertwine as bs).drop (2 * min as.length bs.length) =
      as.drop (min as.length bs.length) ++ bs.drop (min as.length bs.length) :=
  ⟨hp_intertwine_perm as bs,
   hp_intertwine_get as bs,
   hp_intertwine_drop as bs⟩

example : intertwine [1, 3, 5, 7] [2, 4] = [1, 2, 3, 4, 5, 7] := by decide
example : (intertwine [1, 3, 5, 7] [2, 4])[2 * 1]? = [1, 3, 5, 7][1]? :=
  ((C17_order [1, 3, 5, 7] [2, 4]).2.1 1 (by decide)).1
example : (intertwine [1, 3, 5, 7] [2, 4]).drop 4 = [5, 7] ++ [] := (C17_order [1, 3, 5, 7] [2, 4]).2.2

/-- when the two inputs are told apart by a tag `p`, filtering the result gives them back: the
    order inside each input is kept -/
theorem C17_order_families {α : Type} (p : α → Bool) (as bs : List α)
    (ha : ∀ a ∈ as, p a = true) (hb : ∀ b ∈ bs, p b = false) :
    (intertwine as bs).filter p = as ∧ (intertwine as bs).filter (fun x => !p x) = bs :=
  hp_intertwine_filter p as bs ha hb

example : (intertwine [(Fam.v6, 1), (Fam.v6, 2)] [(Fam.v4, 7)]).filter (fun x => x.1 == Fam.v6) =
    [(Fam.v6, 1), (Fam.v6, 2)] :=
  (C17_order_families (fun x : Fam × Nat => x.1 == Fam.v6) _ _ (by decide) (by decide)).1

/-- `connect` with two or more addresses dials in the order `hp_order addrs` =
    `intertwine (the v6 addresses) (the v4 addresses)`: a permutation of the answer whose v6 / v4
    subsequences are the answer's, in resolver order, starting with the first IPv6 address. -/
theorem C17_order_connect (addrs : List Addr) (timeout : Nat) (deadline : Option Nat) (rd : Nat) :
    (2 ≤ addrs.length → connect addrs timeout deadline rd =
      race timeout deadline rd (hp_order addrs) [] 0 none) ∧
    (hp_order addrs).Perm addrs ∧
    (hp_order addrs).filter (·.fam == .v6) = addrs.filter (·.fam == .v6) ∧
    (hp_order addrs).filter (·.fam == .v4) = addrs.filter (·.fam == .v4) ∧
    (addrs.filter (·.fam == .v6) ≠ [] →
      (hp_order addrs).head? = (addrs.filter (·.fam == .v6)).head?) := by
  refine ⟨fun h => ?_, hp_order_perm addrs, (hp_order_filter addrs).1, (hp_order_filter addrs).2,
    fun h => hp_intertwine_head _ _ h⟩
  match addrs, h with
  | a :: b :: l, _ => exact hp_connect_race a b l timeout deadline rd

example : hp_order [c17_a0, c17_a1, c17_a2, c17_a3] = [c17_a1, c17_a0, c17_a3, c17_a2] := by decide

/-! ### (h) success -/

/-- Whatever the deadline: a success is a connection to one of the resolved addresses, and that
    address accepted within the connect timeout. -/
theorem C17_ok_accepts (addrs : List Addr) (timeout : Nat) (deadline : Option Nat) (rd : Nat)
    (id t : Nat) (h : connect addrs timeout deadline rd = .ok id t) :
    ∃ a ∈ addrs, a.id = id ∧ ∃ d, a.beh = .accept d ∧ d ≤ timeout := by
  have := hp_connect_sound'
    (fun p => p.res = none → ∃ a ∈ addrs, a.id = p.id ∧ ∃ d, a.beh = .accept d ∧ d ≤ timeout)
    addrs timeout deadline rd fun a ha t h => by
      obtain ⟨d, hb, hd, _⟩ := hp_pend_ok h
      exact ⟨a, ha, (hp_pend_id ..).symm, d, hb, hd⟩
  rw [h] at this
  obtain ⟨_, q, hq, hr, rfl⟩ := this
  exact hq hr

example : connect [c17_a0, c17_a1, c17_a2] 1000 (some 700) 200 = .ok 0 230 := by decide
example : ∃ a ∈ [c17_a0, c17_a1, c17_a2], a.id = 0 ∧ ∃ d, a.beh = .accept d ∧ d ≤ 1000 :=
  C17_ok_accepts _ 1000 (some 700) 200 0 230 (by decide)

/-! ### (j) delay -/

/-- No deadline, distinct ids.  If the address at position `k` of the dial order accepts after
    `d ≤ timeout`, `connect` succeeds at the latest at `k * raceDelay + d`: each predecessor —
    black hole or not — costs at most one race interval. -/
theorem C17_delay (addrs : List Addr) (timeout rd : Nat) (hid : (addrs.map (·.id)).Nodup)
    (k : Nat) (a : Addr) (d : Nat) (hk : (hp_order addrs)[k]? = some a) (hb : a.beh = .accept d)
    (hd : d ≤ timeout) :
    ∃ id t, connect addrs timeout none rd = .ok id t ∧ t ≤ k * rd + d := by
  match addrs with
  | [] => simp [hp_order, intertwine] at hk
  | [a'] =>
    rw [hp_order_single] at hk
    cases k with
    | succ k => simp at hk
    | zero =>
      simp at hk; subst hk
      rw [hp_connect_single, hp_pend_accept hb hd]
      exact ⟨_, _, rfl, by simp⟩
  | a' :: b' :: l =>
    rw [hp_connect_race]
    exact hp_race_live _ [] 0 none (Nat.zero_le _) (.inr ⟨_, _, _, _, .of_getElem? hk
      ((((hp_order_perm (a' :: b' :: l)).map (·.id)).nodup_iff).mpr hid)
      (fun t _ => hp_pend_accept hb hd)⟩)

/-- two v6 black holes and one v4 address (dial order a1, a0, a3): the v4 address at position 1
    connects at 1 * 200 + 30, not after a 1000 ms connect timeout -/
example : connect [c17_a1, c17_a3, c17_a0] 1000 none 200 = .ok 0 230 := by decide
example : ∃ id t, connect [c17_a1, c17_a3, c17_a0] 1000 none 200 = .ok id t ∧ t ≤ 1 * 200 + 30 :=
  C17_delay _ 1000 200 (by decide) 1 c17_a0 30 (by decide) rfl (by decide)
/-- the bound is attained with black-holed predecessors: position 2 → 2 * 200 + 30 -/
example : connect [c17_a1, c17_a3, { c17_a0 with fam := .v6 }] 1000 none 200 = .ok 0 430 := by decide

/-! ### (h) success, iff -/

/-- No deadline, distinct ids: `connect` succeeds iff some resolved address accepts within the
    connect timeout. -/
theorem C17_iff (addrs : List Addr) (timeout rd : Nat) (hid : (addrs.map (·.id)).Nodup) :
    (∃ id t, connect addrs timeout none rd = .ok id t) ↔
      ∃ a ∈ addrs, ∃ d, a.beh = .accept d ∧ d ≤ timeout := by
  constructor
  · rintro ⟨id, t, h⟩
    obtain ⟨a, ha, _, d, hb, hd⟩ := C17_ok_accepts addrs timeout none rd id t h
    exact ⟨a, ha, d, hb, hd⟩
  · rintro ⟨a, ha, d, hb, hd⟩
    obtain ⟨k, hk⟩ := List.getElem?_of_mem (hp_order_mem.mpr ha)
    obtain ⟨id, t, h, _⟩ := C17_delay addrs timeout rd hid k a d hk hb hd
    exact ⟨id, t, h⟩

example : ∃ id t, connect [c17_a1, c17_a2, c17_a3, c17_a0] 1000 none 200 = .ok id t :=
  (C17_iff _ 1000 200 (by decide)).mpr ⟨c17_a0, by decide, 30, rfl, by decide⟩
/-- an address that would accept only after the connect timeout does not count -/
example : ¬ ∃ id t, connect [c17_a1, c17_a2, c17_a4] 1000 none 200 = .ok id t := by
  rw [C17_iff _ 1000 200 (by decide)]
  rintro ⟨a, ha, d, hb, hd⟩
  have := hp_none_accepts (timeout := 1000) (addrs := [c17_a1, c17_a2, c17_a4]) (by decide) a ha d hb
  omega
example : connect [c17_a1, c17_a2, c17_a4] 1000 none 200 = .err 2 .refused 1205 := by decide
/-- distinct ids are needed in the model: a refused attempt removes every pending attempt with its
    id, here also the one that would have connected -/
example : connect [{ c17_a0 with fam := .v6, beh := .accept 300 }, { c17_a2 with id := 0 }] 1000 none 200
    = .err 0 .refused 205 := by decide

/-! ### (i) failure -/

/-- Whatever the deadline: `noDns` is returned for an empty answer only. -/
theorem C17_noDns_iff (addrs : List Addr) (timeout : Nat) (deadline : Option Nat) (rd : Nat) :
    connect addrs timeout deadline rd = .noDns ↔ addrs = [] := by
  refine ⟨fun h => ?_, fun h => by subst h; rfl⟩
  have := hp_connect_sound' (fun _ => True) addrs timeout deadline rd (fun _ _ _ => trivial)
  rw [h] at this; exact this

/-- Whatever the deadline: if no resolved address accepts within the connect timeout (and there is
    at least one), `connect` returns an error, and it is the error of one of the attempts. -/
theorem C17_err (addrs : List Addr) (timeout : Nat) (deadline : Option Nat) (rd : Nat)
    (hne : addrs ≠ []) (hna : ∀ a ∈ addrs, ∀ d, a.beh = .accept d → timeout < d) :
    ∃ id e t, connect addrs timeout deadline rd = .err id e t ∧ ∃ a ∈ addrs, a.id = id := by
  -- every attempt fails and carries the id of its address
  have := hp_connect_sound' (fun q => q.res ≠ none ∧ ∃ a ∈ addrs, a.id = q.id) addrs timeout deadline rd
    (fun a ha t => ⟨hp_pend_err (hna a ha), a, ha, (hp_pend_id ..).symm⟩)
  cases hc : connect addrs timeout deadline rd with
  | ok id t => rw [hc] at this; obtain ⟨_, q, hq, hr, _⟩ := this; exact absurd hr hq.1
  | noDns => rw [hc] at this; exact absurd this hne
  | err id e t =>
    rw [hc] at this
    obtain ⟨_, h | ⟨q, hq, _, rfl⟩⟩ := this
    · cases h
    · exact ⟨_, e, t, rfl, hq.2⟩

/-- v6 black hole, v4 refusing after 5 ms (started at 200): the refusal (the first error) is
    reported — once the last attempt has timed out, at 1000 -/
example : connect [c17_a2, c17_a1] 1000 none 200 = .err 2 .refused 1000 := by decide
example : ∃ id e t, connect [c17_a2, c17_a1, c17_a4] 1000 (some 300) 200 = .err id e t ∧
    ∃ a ∈ [c17_a2, c17_a1, c17_a4], a.id = id :=
  C17_err _ 1000 (some 300) 200 (by decide) (hp_none_accepts (by decide))
example : connect [c17_a2, c17_a1, c17_a4] 1000 (some 300) 200 = .err 2 .refused 300 := by decide
example : connect [] 1000 none 200 = .noDns := (C17_noDns_iff [] 1000 none 200).mpr rfl

end Atto
