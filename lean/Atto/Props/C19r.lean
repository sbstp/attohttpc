/-
  Atto/Props/C19r.lean — C19 for the responses of an exchange that are NOT handed to the caller: a
  redirect that is followed is decided by its head alone. Whatever follows the blank line ending the head
  on that connection (nothing yet, part of a body, a stall, an error, garbage) cannot change what `send`
  does next, so in particular `send` does not wait for it.
-/
import Atto.Model.Send
import Atto.Lemmas.BodyReads
import Atto.Lemmas.ExampleFacts
namespace Atto

local notation "L" => Consts.maxLineLen

/-- (13) `exchange` — reading the response of one hop and deciding whether to return it, fail, or follow
    a redirect — gives the same verdict for two connections that carry the same well-formed head,
    whatever follows it (`rest`, `rest'`) and however the bytes are segmented. For a followed redirect
    this says that the next hop is chosen (and dialled) as soon as the blank line ending the head has
    arrived. (For a response that is returned, the verdict carries status and URL; its body reader is
    C01's / C19's subject.) -/
theorem C19_hop_decided_by_head (s : SendSettings) (req : Req) (cap n : Nat) (url : Url)
    (r : Option Url) (h : HeadS) (rest rest' : List Item) (t t' : Transport) (f : Framing)
    (hwf : wfT t) (hwf' : wfT t') (hcap : 0 < cap) (hh : h.WF L)
    (hmh : h.fields.length ≤ s.maxHeaders) (hms : h.fields.length ≤ Headers.maxSize)
    (hf : chooseFraming req.methodM h.code h.seen = .ok f)
    (hflat : flatT t = bytesI h.render ++ rest) (hflat' : flatT t' = bytesI h.render ++ rest') :
    (match exchange s req cap n url { script := t, resolved := r } with
      | .follow next => some (Sum.inl next)
      | .final (.ok st u) => some (Sum.inr (st, u))
      | .final _ => none) =
    (match exchange s req cap n url { script := t', resolved := r } with
      | .follow next => some (Sum.inl next)
      | .final (.ok st u) => some (Sum.inr (st, u))
      | .final _ => none) ∧
    (∃ next, exchange s req cap n url { script := t, resolved := r } = .follow next) =
    (∃ next, exchange s req cap n url { script := t', resolved := r } = .follow next) := by
  obtain ⟨r1, _, _, hp⟩ := parseResponse_of_head h hh rest t cap s.maxHeaders hwf hcap hmh hms hflat
  obtain ⟨r1', _, _, hp'⟩ := parseResponse_of_head h hh rest' t' cap s.maxHeaders hwf' hcap hmh hms hflat'
  have e := hp req.methodM f hf
  have e' := hp' req.methodM f hf
  simp only [exchange, e, e', and_self]

/-- the redirect case spelled out: if the head is a followed status with a `Location` the `url` crate
    resolves to `next`, following is on and the limit is not reached, then `send` goes on to `next`
    — on ANY continuation `rest` of the connection, a silent peer included -/
theorem C19_redirect_follows_at_head (s : SendSettings) (req : Req) (cap n : Nat) (url next : Url)
    (h : HeadS) (rest : List Item) (t : Transport) (f : Framing)
    (hwf : wfT t) (hcap : 0 < cap) (hh : h.WF L)
    (hmh : h.fields.length ≤ s.maxHeaders) (hms : h.fields.length ≤ Headers.maxSize)
    (hf : chooseFraming req.methodM h.code h.seen = .ok f)
    (hfollow : s.followRedirects = true) (hst : isRedirectStatus h.code = true)
    (hlim : n + 1 ≤ s.maxRedirections)
    (hloc : ((h.seen.remove nameTE).get (hName "location")).isSome = true)
    (hdial : undialable next = none)
    (hflat : flatT t = bytesI h.render ++ rest) :
    exchange s req cap n url { script := t, resolved := some next } = .follow next := by
  obtain ⟨r1, _, _, hp⟩ := parseResponse_of_head h hh rest t cap s.maxHeaders hwf hcap hmh hms hflat
  have e := hp req.methodM f hf
  simp only [exchange, e, hfollow, hst]
  have : ¬ (n + 1 > s.maxRedirections) := by omega
  simp only [Bool.not_true, Bool.false_or, this, if_false]
  cases hg : (h.seen.remove nameTE).get (hName "location") with
  | none => rw [hg] at hloc; cases hloc
  | some v => simp [hdial]

namespace C19rEx
/-- `HTTP/1.1 302 Found`, `Location: /next`, `Content-Length: 10` -/
def head302 : HeadS :=
  { version := str "HTTP/1.1", sp1 := 1, code := 302, reason := str "Found",
    fields := [⟨str "Location", 1, str "/next", 0⟩, ⟨str "Content-Length", 1, str "10", 0⟩] }
def settings : SendSettings :=
  { followRedirects := true, maxRedirections := 5, maxHeaders := 100,
    proxy := { httpProxy := none, httpsProxy := none, disabled := false, noProxy := [] } }
def req : Req := { method := str "GET", methodM := .get, headers := [], body := { kind := .empty }, bodyRewindable := true }
def url0 : Url := { scheme := str "http", user := [], pass := none, host := str "a.test", hostKind := 0, port := none,
                    effPort := 80, path := str "/", query := none, fragment := none }
def url1 : Url := { url0 with path := str "/next" }
end C19rEx

/-- non-vacuity of the redirect case of (13): a `302` with `Location: /next` that announces ten body bytes of which three
    arrive before the peer goes silent — `send` goes on to `/next` -/
example : exchange C19rEx.settings C19rEx.req 8 0 C19rEx.url0
    { script := Ex.seg (C19rEx.head302.render ++ str "abc") ++ [.pause], resolved := some C19rEx.url1 } =
    .follow C19rEx.url1 :=
  C19_redirect_follows_at_head C19rEx.settings C19rEx.req 8 0 C19rEx.url0 C19rEx.url1 C19rEx.head302
    (bytesI (str "abc") ++ [.pause]) _ (.length 10)
    (Ex.wfT_seg_append _ _ (by decide +kernel) (by decide)) (by decide) (by decide +kernel)
    (by decide +kernel) (by decide +kernel) (by decide +kernel) rfl (by decide) (by decide)
    (by decide +kernel) (by decide +kernel)
    (by rw [Ex.flatT_seg_append, bytesI_append, List.append_assoc]; rfl)

end Atto
