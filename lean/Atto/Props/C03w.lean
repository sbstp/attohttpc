/-
  Atto/Props/C03w.lean — what the framing decision does NOT depend on: the protocol-version token, the
  reason phrase and the blanks of the status line. Two responses with the same status code and the
  same field lines are framed alike (same status, same header map, same decoder, the same kind of body
  reader with the same length), whatever their status lines say otherwise.
-/
import Atto.Lemmas.BodyReads
import Atto.Lemmas.ExampleData
import Atto.Lemmas.ExampleFacts
namespace Atto

local notation "L" => Consts.maxLineLen

/-- (w1) the framing of a response is decided by method, status code and field lines: the version token
    (`HTTP/1.0`, `HTTP/1.1`, anything else the lenient status-line parser lets through), the reason
    phrase and the number of blanks play no part -/
theorem C03_framing_ignores_status_line_details (h h' : HeadS) (m : Method) (f : Framing)
    (rest rest' : List Item) (t t' : Transport) (cap mh : Nat)
    (hw : wfT t) (hw' : wfT t') (hcap : 0 < cap) (hh : h.WF L) (hh' : h'.WF L)
    (hcode : h'.code = h.code) (hfields : h'.fields = h.fields)
    (hmh : h.fields.length ≤ mh) (hms : h.fields.length ≤ Headers.maxSize)
    (hf : chooseFraming m h.code h.seen = .ok f)
    (hflat : flatT t = bytesI h.render ++ rest) (hflat' : flatT t' = bytesI h'.render ++ rest') :
    ∃ r1 r1', parseResponse m mh cap t = .ok
        { status := h.code, headers := h.seen.remove nameTE, rawHeaders := h.seen,
          coding := codingFor (bodyless m h.code) m h.seen, body := Body.new f r1 } ∧
      parseResponse m mh cap t' = .ok
        { status := h.code, headers := h.seen.remove nameTE, rawHeaders := h.seen,
          coding := codingFor (bodyless m h.code) m h.seen, body := Body.new f r1' } ∧
      r1.flat = rest ∧ r1'.flat = rest' := by
  have hseen : h'.seen = h.seen := by unfold HeadS.seen; rw [hfields]
  obtain ⟨r1, _, hfl, hp⟩ := parseResponse_of_head h hh rest t cap mh hw hcap hmh hms hflat
  obtain ⟨r1', _, hfl', hp'⟩ := parseResponse_of_head h' hh' rest' t' cap mh hw' hcap
    (by rw [hfields]; exact hmh) (by rw [hfields]; exact hms) hflat'
  refine ⟨r1, r1', hp m f hf, ?_, hfl, hfl'⟩
  have := hp' m f (by rw [hcode, hseen]; exact hf)
  rw [hcode, hseen] at this
  exact this

/-- non-vacuity: the chunked example response once as `HTTP/1.1 200 OK` and once as `HTTP/1.0  200`
    (two blanks, no reason phrase): chunked framing both times -/
def C03w.head10 : HeadS := { Ex.headTE with version := str "HTTP/1.0", sp1 := 2, reason := [] }

example := C03_framing_ignores_status_line_details Ex.headTE C03w.head10 .get .chunked
  (bytesI (encChunks Ex.chunks ++ Ex.last.enc)) (bytesI (encChunks Ex.chunks ++ Ex.last.enc))
  (Ex.seg (Ex.headTE.render ++ encChunks Ex.chunks ++ Ex.last.enc))
  [.data (C03w.head10.render ++ encChunks Ex.chunks ++ Ex.last.enc)] 8 100
  (Ex.wfT_seg _ (Ex.long (Ex.long Ex.headTE_long))) (by decide +kernel) (by decide) Ex.headTE_wf
  (by decide +kernel) rfl rfl (by decide) (by decide) Ex.headTE_framing
  (by rw [Ex.flatT_seg, List.append_assoc, bytesI_append])
  (by rw [List.append_assoc, bytesI_append]; simp [flatT, bytesI])

end Atto
