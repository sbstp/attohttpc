/-
  Atto/Model/Happy.lean — src/happy.rs: `intertwine` and `connect` as a discrete-event function of
  the per-address behaviour. Times in milliseconds.
-/
import Atto.Std.Io
namespace Atto
namespace Happy

/-- `intertwine(ita, itb)`: alternate, starting with the first list; once one list is exhausted the
    rest of the other follows (the iterator's one-slot `valb` buffer realises exactly this). -/
def intertwine {α : Type} : List α → List α → List α
  | [], bs => bs
  | as, [] => as
  | a :: as, b :: bs => a :: b :: intertwine as bs

inductive Fam where | v6 | v4 deriving Repr, DecidableEq

/-- What happens when one address is dialled. -/
inductive Beh where
  | accept (d : Nat)        -- the peer accepts after d ms
  | refuse (d : Nat)        -- the peer refuses after d ms
  | blackhole               -- no answer, ever
  deriving Repr, DecidableEq

structure Addr where
  fam : Fam
  beh : Beh
  id : Nat                  -- position in the resolver's answer
  deriving Repr, DecidableEq

inductive ConnErr where | refused | timedOut deriving Repr, DecidableEq

/-- an attempt that has been started: when it completes and how -/
structure Pending where
  id : Nat
  done : Nat
  res : Option ConnErr       -- none = connected
  deriving Repr

inductive ConnOut where
  | ok (id : Nat) (t : Nat)
  | err (id : Nat) (e : ConnErr) (t : Nat)     -- the error of the first attempt that completed
  | noDns
  deriving Repr, DecidableEq

/-- one attempt started at `t` with an effective timeout `lim` -/
def startAttempt (a : Addr) (t lim : Nat) : Pending :=
  match a.beh with
  | .accept d => if d ≤ lim then { id := a.id, done := t + d, res := none } else { id := a.id, done := t + lim, res := some .timedOut }
  | .refuse d => if d ≤ lim then { id := a.id, done := t + d, res := some .refused } else { id := a.id, done := t + lim, res := some .timedOut }
  | .blackhole => { id := a.id, done := t + lim, res := some .timedOut }

/-- the per-attempt limit: `timeout`, cut by the overall deadline; `none` = deadline already passed -/
def attemptLimit (timeout : Nat) (deadline : Option Nat) (t : Nat) : Option Nat :=
  match deadline with
  | none => some timeout
  | some dl => if dl ≤ t then none else some (min timeout (dl - t))   -- (at dl = t nothing is left: `connect_one` returns TimedOut without dialling, as past the deadline)

def earliest : List Pending → Option Pending
  | [] => none
  | p :: ps => match earliest ps with
    | none => some p
    | some q => if p.done ≤ q.done then some p else some q

def removeId (ps : List Pending) (id : Nat) : List Pending := ps.filter (·.id != id)

/-- after the spawn loop: `for (addr, res) in rx.iter()` — results in completion order -/
def drain : Nat → List Pending → Nat → Option (Nat × ConnErr) → ConnOut
  | 0, _, _, _ => .noDns
  | fuel+1, ps, t, firstErr =>
    match earliest ps with
    | none => (match firstErr with
        | some (id, e) => .err id e t
        | none => .noDns)
    | some p =>
      let t' := max t p.done
      match p.res with
      | none => .ok p.id t'
      | some e => drain fuel (removeId ps p.id) t' (firstErr.orElse (fun _ => some (p.id, e)))

/-- the racing loop: spawn an attempt, wait up to `raceDelay` for ANY result -/
def race (timeout : Nat) (deadline : Option Nat) (raceDelay : Nat) :
    List Addr → List Pending → Nat → Option (Nat × ConnErr) → ConnOut
  | [], ps, t, firstErr => drain (ps.length + 1) ps t firstErr
  | a :: rest, ps, t, firstErr =>
    let p := match attemptLimit timeout deadline t with
      | some lim => startAttempt a t lim
      | none => { id := a.id, done := t, res := some .timedOut }
    let ps := ps ++ [p]
    match earliest ps with
    | some q =>
      if q.done ≤ t + raceDelay then
        let t' := max t q.done
        match q.res with
        | none => .ok q.id t'
        | some e => race timeout deadline raceDelay rest (removeId ps q.id) t' (firstErr.orElse (fun _ => some (q.id, e)))
      else race timeout deadline raceDelay rest ps (t + raceDelay) firstErr
    | none => race timeout deadline raceDelay rest ps (t + raceDelay) firstErr

/-- `happy::connect` for a domain name whose resolver answer is `addrs` -/
def connect (addrs : List Addr) (timeout : Nat) (deadline : Option Nat) (raceDelay : Nat) : ConnOut :=
  match addrs with
  | [] => .noDns
  | [a] =>
    -- fast path: a single address is dialled at once, like any attempt with the connect timeout cut to
    -- what is left until the overall deadline (fix F19; before it the deadline was not consulted here)
    let p : Pending := match attemptLimit timeout deadline 0 with
      | some lim => startAttempt a 0 lim
      | none => { id := a.id, done := 0, res := some .timedOut }
    (match p.res with
     | none => .ok a.id p.done
     | some e => .err a.id e p.done)
  | _ =>
    let sorted := intertwine (addrs.filter (·.fam == .v6)) (addrs.filter (·.fam == .v4))
    race timeout deadline raceDelay sorted [] 0 none

end Happy
end Atto
