/-
  Atto/Model/WatchdogSteps.lean — src/streams.rs, the deadline watchdog of `connect_tcp` and the
  reader `read_timeout`, at INTERLEAVING granularity (Atto/Model/Watchdog.lean has the watchdog's
  reaction to the deadline as one atomic step; here it is two).

  The Rust thread, once `recv_timeout` has timed out, performs two separate actions
      drop(rx);                               -- (1) from now on the reader's `tx.send(())` fails
      let _ = stream.shutdown(Shutdown::Both) -- (2) a blocked / the next read returns Ok(0)
  and any step of the reader, the peer or the clock may happen between them.  The source order is
  the parameter `dropFirst : Bool` of `step` (`true` = (1) before (2), what the source does; the
  value is extracted into `Consts.wdDropsRxBeforeShutdown`).

  The system is untimed except for the flag `due` ("the deadline has been reached"), set by the
  environment step `tick` and never reset.  A scheduler picks any enabled action (`Act`); `step`
  returns `none` for an action that is not enabled (a read that would block, a watchdog step when
  the watchdog has nothing to do, a `send` on a shut socket).

  Reader: `read n` is one call of `read_timeout` with a buffer of `n > 0` bytes — the socket read
  and, on a 0-length result, the ping `tx.send(())`, taken together as one step.  (For
  `dropFirst = true` this loses nothing: `rxAlive` only ever goes from true to false and `shut`
  only from false to true — `WdS.step_mono` in the lemma file — so a ping that
  succeeds after a 0-length read proves that the socket was not yet shut when that read returned.)

  Core Lean only; no lemma imports (this file may be linked into the compiled driver).
-/
namespace Atto
namespace WdS

/-- the watchdog thread's program counter -/
inductive Pc where
  | waiting        -- in `recv_timeout` (or past it, not yet acted)
  | afterFirst     -- deadline branch: first of the two actions done
  | done           -- both actions done
  | exited         -- got a ping or saw the sender disappear: gone without touching the socket
  deriving Repr, DecidableEq

structure St where
  pc : Pc := .waiting
  rxAlive : Bool := true        -- the receiver `rx` exists: a `tx.send(())` succeeds
  shut : Bool := false          -- `shutdown(Both)` executed
  hasTx : Bool := true          -- the reader (the response) still holds its sender
  peerClosed : Bool := false
  pending : Nat := 0            -- bytes that arrived and are unread
  due : Bool := false           -- the deadline has been reached
  deriving Repr, DecidableEq

/-- watchdog installed and waiting, reader holds its sender, nothing has happened -/
def init : St := {}

/-- what a `read` with a non-empty buffer returns -/
inductive Out where
  | data (k : Nat)
  | eof                 -- Ok(0)
  | timedOut            -- Err(TimedOut) made by `read_timeout`
  deriving Repr, DecidableEq

/-- the actions the scheduler chooses from -/
inductive Act where
  | tick                -- environment: the deadline is reached
  | send (n : Nat)      -- peer: n more bytes arrive (only while the socket is not shut)
  | close               -- peer: closes
  | dropResponse        -- caller: drops the response, and with it the sender
  | wdFire              -- watchdog: the next action of the deadline branch
  | wdExit              -- watchdog: `recv_timeout` returned `Disconnected`
  | read (n : Nat)      -- reader: one `read_timeout` with a buffer of n bytes
  deriving Repr, DecidableEq

/-- action (1): `drop(rx)` -/
def dropRx (s : St) : St := { s with rxAlive := false }
/-- action (2): `stream.shutdown(Shutdown::Both)` -/
def shutdown (s : St) : St := { s with shut := true }

/-- the first action of the deadline branch, in the order `dropFirst` -/
def first (dropFirst : Bool) (s : St) : St := if dropFirst then dropRx s else shutdown s
/-- the second one: the other action -/
def second (dropFirst : Bool) (s : St) : St := if dropFirst then shutdown s else dropRx s

/-- the watchdog's deadline branch, one action per step -/
def wdFire (dropFirst : Bool) (s : St) : Option St :=
  match s.pc with
  | .waiting => if s.due then some { first dropFirst s with pc := .afterFirst } else none
  | .afterFirst => some { second dropFirst s with pc := .done }
  | .done => none
  | .exited => none

/-- the sender is gone: `recv_timeout` returns `Disconnected`, the thread ends (its `rx` with it) -/
def wdExit (s : St) : Option St :=
  if s.pc = .waiting ∧ s.hasTx = false then some { s with pc := .exited, rxAlive := false } else none

/-- the reader's ping `tx.send(())`: succeeds iff the receiver exists (also when the watchdog is
    already past its `recv_timeout`).  A watchdog that is still waiting receives it and ends
    (thread exit drops `rx`). -/
def ping (s : St) : Bool × St :=
  if s.rxAlive then
    (true, match s.pc with
      | .waiting => { s with pc := .exited, rxAlive := false }
      | _ => s)
  else (false, s)

/-- `read_timeout(stream, buf, timeout)` with `buf.len() = n`; `none` = the read blocks -/
def read (s : St) (n : Nat) : Option (St × Out) :=
  if n = 0 then none                                 -- only reads with a non-empty buffer are modelled
  else if 0 < s.pending then
    some ({ s with pending := s.pending - min n s.pending }, .data (min n s.pending))
  else if s.peerClosed || s.shut then
    -- the OS read returns 0
    if s.hasTx then
      match ping s with
      | (true, s') => some ({ s' with hasTx := false }, .eof)      -- `*timeout = None; Ok(0)`
      | (false, s') => some (s', .timedOut)
    else some (s, .eof)
  else none

/-- one scheduler step: the successor state and what the reader got (reads only) -/
def step (dropFirst : Bool) (s : St) : Act → Option (St × Option Out)
  | .tick => some ({ s with due := true }, none)
  | .send n => if s.shut then none else some ({ s with pending := s.pending + n }, none)
  | .close => some ({ s with peerClosed := true }, none)
  | .dropResponse => some ({ s with hasTx := false }, none)
  | .wdFire => match wdFire dropFirst s with
    | some s' => some (s', none)
    | none => none
  | .wdExit => match wdExit s with
    | some s' => some (s', none)
    | none => none
  | .read n => match read s n with
    | some (s', o) => some (s', some o)
    | none => none

/-- a whole interleaving: the final state and the results of its reads, in order; `none` if some
    action of the list is not enabled when its turn comes -/
def run (dropFirst : Bool) : St → List Act → Option (St × List Out)
  | s, [] => some (s, [])
  | s, a :: rest =>
    match step dropFirst s a with
    | none => none
    | some (s1, o) =>
      match run dropFirst s1 rest with
      | none => none
      | some (s2, os) => some (s2, o.toList ++ os)

end WdS
end Atto
