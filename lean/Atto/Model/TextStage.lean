/-
  Atto/Model/TextStage.lean — src/parsing/text_reader.rs `impl Read for TextReader`:
  reads with fewer than 8 bytes of room are served from an 8-byte staging buffer that the decoder
  (`encoding_rs_io::DecodeReaderBytes`, third-party: a parameter `R` here) fills.
-/
import Atto.Std.Io
import Atto.Gen.Consts
namespace Atto

/-- the decoder behind the `TextReader`: any stateful reader, `R st n` = `inner.read(&mut buf[..n])` -/
abbrev InnerRead (σ : Type) := σ → Nat → RR Bytes × σ

/-- `staged: [u8; N]` — N is regenerated from the source on every run (tools/extract_consts.py) -/
def stageCap : Nat := Consts.textStageCap
/-- `buf.len() >= self.staged.len()` -/
def stageMin : Nat := Consts.textStageCap

/-- `TextReader` state: the decoder, the staging buffer's filled part (`staged[..staged_len]`) and
    `staged_pos`. -/
structure TextStage (σ : Type) where
  inner : σ
  staged : Bytes := []
  pos : Nat := 0

/-- `Read::read` with a caller buffer of `n` bytes.
    ```
    if self.staged_pos == self.staged_len {
        if buf.len() >= self.staged.len() || buf.is_empty() { return self.inner.read(buf); }
        self.staged_len = self.inner.read(&mut self.staged)?;
        self.staged_pos = 0;
    }
    let n = buf.len().min(self.staged_len - self.staged_pos);
    buf[..n].copy_from_slice(&self.staged[self.staged_pos..self.staged_pos + n]);
    self.staged_pos += n;
    Ok(n)
    ```
    `staged_len - staged_pos` is a `usize` subtraction and the slice is indexed: both are `.panic`
    branches here (unreachable under `TextStage.Inv`, a theorem). -/
def TextStage.read (R : InnerRead σ) (s : TextStage σ) (n : Nat) : RR Bytes × TextStage σ :=
  if s.pos = s.staged.length then
    if stageMin ≤ n ∨ n = 0 then
      match R s.inner n with
      | (res, i') => (res, { s with inner := i' })
    else
      match R s.inner stageCap with
      | (.ok bs, i') =>
        -- the decoder cannot return more than the staging buffer holds
        if stageCap < bs.length then (.panic, { s with inner := i' })
        else
          let out := bs.take n
          (.ok out, { inner := i', staged := bs, pos := out.length })
      | (.err e, i') => (.err e, { s with inner := i' })
      | (.blocked, i') => (.blocked, { s with inner := i' })
      | (.panic, i') => (.panic, { s with inner := i' })
  else if s.staged.length < s.pos then (.panic, s)
  else
    let out := (s.staged.drop s.pos).take n
    (.ok out, { s with pos := s.pos + out.length })

/-- a schedule of caller reads: the events and the final state (the sizes the decoder is asked for: `innerSizes`) -/
def TextStage.run (R : InnerRead σ) : TextStage σ → List Nat → List (RR Bytes) × TextStage σ
  | s, [] => ([], s)
  | s, n :: ns =>
    match s.read R n with
    | (ev, s') => match TextStage.run R s' ns with
      | (evs, s'') => (ev :: evs, s'')

/-- what is still waiting in the staging buffer -/
def TextStage.pending (s : TextStage σ) : Bytes := s.staged.drop s.pos

def TextStage.Inv (s : TextStage σ) : Prop := s.pos ≤ s.staged.length ∧ s.staged.length ≤ stageCap

/-- the sizes passed to the decoder by a schedule of caller reads, in order (a caller read served from
    the staging buffer asks the decoder nothing) -/
def TextStage.innerSizes (R : InnerRead σ) : TextStage σ → List Nat → List Nat
  | _, [] => []
  | s, n :: ns =>
    let rest := TextStage.innerSizes R (s.read R n).2 ns
    if s.pos = s.staged.length then (if stageMin ≤ n ∨ n = 0 then n else stageCap) :: rest else rest

/-- running the bare decoder over a list of sizes -/
def runInner (R : InnerRead σ) : σ → List Nat → List (RR Bytes) × σ
  | i, [] => ([], i)
  | i, n :: ns =>
    match R i n with
    | (ev, i') => match runInner R i' ns with
      | (evs, i'') => (ev :: evs, i'')

/-- bytes of the `Ok` events, concatenated -/
def okBytes : List (RR Bytes) → Bytes
  | [] => []
  | .ok bs :: r => bs ++ okBytes r
  | _ :: r => okBytes r

end Atto
