-- root of the Atto library: every module (generated list)
import Atto.Std.BufReader
import Atto.Std.HeaderMap
import Atto.Std.Io
import Atto.Std.Src
import Atto.Std.Utf8
import Atto.Gen.Consts
import Atto.Spec.Base64
import Atto.Spec.ChunkedSpec
import Atto.Spec.Flat
import Atto.Spec.FramingSpec
import Atto.Spec.HeadSpec
import Atto.Spec.MultipartSpec
import Atto.Spec.RequestSpec
import Atto.Spec.Rfc3986
import Atto.Spec.TextSpec
import Atto.Model.Body
import Atto.Model.BodyBuf
import Atto.Model.Charset
import Atto.Model.CodedEnd
import Atto.Model.Compress
import Atto.Model.Copy
import Atto.Model.Handshake
import Atto.Model.Happy
import Atto.Model.Head
import Atto.Model.Lines
import Atto.Model.Multipart
import Atto.Model.Proxy
import Atto.Model.Reads
import Atto.Model.Request
import Atto.Model.Response
import Atto.Model.Send
import Atto.Model.SendT
import Atto.Model.SendW
import Atto.Model.Settings
import Atto.Model.TextStage
import Atto.Model.Tls
import Atto.Model.Url
import Atto.Model.Watchdog
import Atto.Model.WatchdogSteps
import Atto.Lemmas.B64RoundTrip
import Atto.Lemmas.BodyReads
import Atto.Lemmas.BufReaderRefine
import Atto.Lemmas.BufViewChunked
import Atto.Lemmas.BufViewLC
import Atto.Lemmas.BufViewLemmas
import Atto.Lemmas.BufViewRun
import Atto.Lemmas.ChunkBuf
import Atto.Lemmas.ChunkedAny
import Atto.Lemmas.ChunkedFlat
import Atto.Lemmas.ChunkedRuns
import Atto.Lemmas.CompressLemmas
import Atto.Lemmas.ConnectCap
import Atto.Lemmas.CopyTrace
import Atto.Lemmas.Drain
import Atto.Lemmas.ExampleData
import Atto.Lemmas.ExampleFacts
import Atto.Lemmas.FlatPrims
import Atto.Lemmas.Framing
import Atto.Lemmas.HappyLemmas
import Atto.Lemmas.HeadFlat
import Atto.Lemmas.HopLoop
import Atto.Lemmas.LengthClose
import Atto.Lemmas.ListFacts
import Atto.Lemmas.MultipartLemmas
import Atto.Lemmas.NoPanic
import Atto.Lemmas.Pipeline
import Atto.Lemmas.Prog
import Atto.Lemmas.ProxyLemmas
import Atto.Lemmas.Redirect
import Atto.Lemmas.RedirectExamples
import Atto.Lemmas.RqConnect
import Atto.Lemmas.RqHeaders
import Atto.Lemmas.RqLex
import Atto.Lemmas.RqRadix
import Atto.Lemmas.RqRoundTrip
import Atto.Lemmas.RqSend
import Atto.Lemmas.SendTLemmas
import Atto.Lemmas.SettingsRefine
import Atto.Lemmas.Sim
import Atto.Lemmas.Str
import Atto.Lemmas.TextLemmas
import Atto.Lemmas.TextStageLemmas
import Atto.Lemmas.Tracks
import Atto.Lemmas.WatchdogLemmas
import Atto.Lemmas.WatchdogStepsLemmas
import Atto.Props.BufView
import Atto.Props.C01
import Atto.Props.C01h
import Atto.Props.C02
import Atto.Props.C02c
import Atto.Props.C02s
import Atto.Props.C02u
import Atto.Props.C03
import Atto.Props.C03v
import Atto.Props.C03w
import Atto.Props.C04
import Atto.Props.C05
import Atto.Props.C05b
import Atto.Props.C05t
import Atto.Props.C06
import Atto.Props.C07
import Atto.Props.C08
import Atto.Props.C09
import Atto.Props.C10
import Atto.Props.C10r
import Atto.Props.C10w
import Atto.Props.C11
import Atto.Props.C12
import Atto.Props.C12t
import Atto.Props.C13
import Atto.Props.C13h
import Atto.Props.C13s
import Atto.Props.C13z
import Atto.Props.C14
import Atto.Props.C15
import Atto.Props.C16
import Atto.Props.C17
import Atto.Props.C17d
import Atto.Props.C17x
import Atto.Props.C18
import Atto.Props.C18s
import Atto.Props.C19
import Atto.Props.C19r
import Atto.Props.C19w
import Atto.Props.Placeholder
import Atto.Driver.CharsetOp
import Atto.Driver.Codec
import Atto.Driver.HappyOp
import Atto.Driver.MpOp
import Atto.Driver.Ops
import Atto.Driver.ProxyOp
import Atto.Driver.SendOp
import Atto.Driver.SessOp
import Atto.Driver.StageOp
import Atto.Driver.TlsOp
import Atto.Driver.WdOp
